import Hdl21Model.Slice
import Hdl21Model.Conn
import Hdl21Model.Lemmas.Slice
import Hdl21Model.Lemmas.Conn
import Hdl21Model.Props.C03
import Hdl21Model.Prefix
import Hdl21Model.Lemmas.Prefix
import Hdl21Model.Lemmas.PrefixHash
import Hdl21Model.Props.C14
import Hdl21Model.Namespace
import Hdl21Model.Lemmas.Names
import Hdl21Model.Lemmas.Namespace
import Hdl21Model.Props.C18
import Hdl21Model.Bundles
import Hdl21Model.Lemmas.Bundles
import Hdl21Model.Props.C10
import Hdl21Model.Naming
import Hdl21Model.Props.C09
import Hdl21Model.Params
import Hdl21Model.Props.C13
import Hdl21Model.Nets
import Hdl21Model.Pkg
import Hdl21Model.Design
import Hdl21Model.Export
import Hdl21Model.Lemmas.Resolve
import Hdl21Model.Lemmas.Export
import Hdl21Model.Props.C01
import Hdl21Model.ExportOrder
import Hdl21Model.Props.C06
import Hdl21Model.Runner
import Hdl21Model.Lemmas.Runner
import Hdl21Model.Props.C07
import Hdl21Model.Props.C08
import Hdl21Model.Props.C02
import Hdl21Model.Order
import Hdl21Model.Props.C12
import Hdl21Model.Import
import Hdl21Model.Props.C11
import Hdl21Model.Names
import Hdl21Model.Lemmas.List
import Hdl21Model.Props.C05
import Hdl21Model.InstOps
import Hdl21Model.Lemmas.InstOps
import Hdl21Model.Props.C04
import Hdl21Model.Flatten
import Hdl21Model.Props.C16
import Hdl21Model.Builtin
import Hdl21Model.Lemmas.Builtin
import Hdl21Model.Props.C19
import Hdl21Model.SimExport
import Hdl21Model.Lemmas.SimExport
import Hdl21Model.Props.C17
import Hdl21Model.PdkTypes
import Hdl21Model.Generated.PdkTables
import Hdl21Model.Pdk
import Hdl21Model.Lemmas.Pdk
import Hdl21Model.Props.C15
import Hdl21Model.Lemmas.Dfs
import Hdl21Model.PortRefs
import Hdl21Model.Lemmas.PortRefs
import Hdl21Model.Lemmas.FlattenSound
import Hdl21Model.Lemmas.RunnerCanon
import Hdl21Model.GenRun
import Hdl21Model.RoundTrip
import Hdl21Model.ExportWF
import Hdl21Model.ConnTypes
import Hdl21Model.Lemmas.GenRun
import Hdl21Model.Lemmas.RoundTrip
import Hdl21Model.Lemmas.ExportWF
import Hdl21Model.Lemmas.ConnTypes
import Hdl21Model.Lemmas.Nets
import Hdl21Model.Lemmas.Rename
import Hdl21Model.InstBundle
import Hdl21Model.Lemmas.InstBundle
import Hdl21Model.ArrayPass
import Hdl21Model.Lemmas.ArrayPass
import Hdl21Model.NameEnc
import Hdl21Model.Lemmas.NameEnc
import Hdl21Model.Lemmas.Naming
import Hdl21Model.Orphanage
import Hdl21Model.Lemmas.Orphanage
import Hdl21Model.Drv.Orphanage
import Hdl21Model.BundleConn
import Hdl21Model.Lemmas.BundleConn
import Hdl21Model.Drv.BundleConn
