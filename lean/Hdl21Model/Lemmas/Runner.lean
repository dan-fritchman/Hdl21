/-
`visit` is read once, in `visit_run`: a visit of `m` runs the pass on modules below `m`, one after another (`Run`).  What the
property theorems say of a visit (`Rel`, `Run.frame`) is shown of one such step and carried along the sequence; so is the
canonical-state invariant of Lemmas/RunnerCanon.
-/
import Hdl21Model.Runner
namespace Hdl21.Runner

variable {S : Type}

/-- The `done` set of pass `k` is closed under instantiation: a module is only done once its children are. -/
def DoneClosed (sys : Sys S) (k : Nat) (st : RState S) : Prop :=
  ∀ m, st.done k m = true → ∀ c ∈ sys.children m, st.done k c = true

/-- How the persistent state may change during visits of pass `k`. -/
structure Rel (sys : Sys S) (k : Nat) (st st' : RState S) : Prop where
  closed : DoneClosed sys k st → DoneClosed sys k st'
  done_mono : ∀ j x, st.done j x = true → st'.done j x = true
  done_other : ∀ j x, j ≠ k → st'.done j x = st.done j x
  failed_mono : ∀ x, st.failed x = true → st'.failed x = true
  /-- a newly failed module is not done for this pass -/
  new_failed : ∀ x, st'.failed x = true → st.failed x = false → st'.done k x = false
  /-- done entries are only ever added for modules that are not failed -/
  new_done : ∀ x, st'.done k x = true → st.done k x = false → st'.failed x = false
  /-- failed modules are left alone -/
  failed_frozen : ∀ x, st.failed x = true → st'.σ x = st.σ x ∧ ∀ j, st'.done j x = st.done j x
  /-- modules already done for this pass are not rewritten by it again -/
  done_frozen : ∀ x, st.done k x = true → st'.σ x = st.σ x

theorem Rel.refl (sys : Sys S) (k : Nat) (st : RState S) : Rel sys k st st where
  closed := id
  done_mono _ _ h := h
  done_other _ _ _ := rfl
  failed_mono _ h := h
  new_failed _ a b := Bool.noConfusion (a.symm.trans b)
  new_done _ a b := Bool.noConfusion (a.symm.trans b)
  failed_frozen _ _ := ⟨rfl, fun _ => rfl⟩
  done_frozen _ _ := rfl

theorem Rel.trans {sys : Sys S} {k : Nat} {a b c : RState S}
    (h1 : Rel sys k a b) (h2 : Rel sys k b c) : Rel sys k a c := by
  refine ⟨fun h => h2.closed (h1.closed h), fun j x h => h2.done_mono j x (h1.done_mono j x h),
    fun j x hj => (by rw [h2.done_other j x hj, h1.done_other j x hj]),
    fun x h => h2.failed_mono x (h1.failed_mono x h), ?_, ?_, ?_, ?_⟩
  · intro x hc ha
    cases hb : b.failed x with
    | false => exact h2.new_failed x hc hb
    | true => rw [(h2.failed_frozen x hb).2 k]; exact h1.new_failed x hb ha
  · intro x hc ha
    cases hb : b.done k x with
    | false => exact h2.new_done x hc hb
    | true => exact Bool.of_not_eq_true fun hcf => by rw [h2.new_failed x hcf (h1.new_done x hb ha)] at hc; cases hc
  · intro x ha
    obtain ⟨s1, d1⟩ := h1.failed_frozen x ha
    obtain ⟨s2, d2⟩ := h2.failed_frozen x (h1.failed_mono x ha)
    exact ⟨s2.trans s1, fun j => (d2 j).trans (d1 j)⟩
  · intro x ha
    rw [h2.done_frozen x (h1.done_mono k x ha), h1.done_frozen x ha]

theorem reach_lt (sys : Sys S) (hdag : ∀ m c, c ∈ sys.children m → c < m) {m y : Nat} (h : Reach sys m y) : y ≤ m := by
  induction h with
  | refl _ => exact Nat.le_refl _
  | step m c x hc _ ih => exact Nat.le_trans ih (Nat.le_of_lt (hdag m c hc))

theorem DoneClosed.reach {sys : Sys S} {k : Nat} {s : RState S} (hc : DoneClosed sys k s) {m x : Nat} (h : Reach sys m x) :
    s.done k m = true → s.done k x = true := by
  induction h with
  | refl m => exact id
  | step m c x hcm _ ih => exact fun hm => ih (hc m hm c hcm)

def RState.ran (st : RState S) (k x : Nat) (s : S) : RState S :=
  { st with σ := fun y => if y = x then s else st.σ y, done := fun j y => if j = k ∧ y = x then true else st.done j y }

def RState.raised (st : RState S) (x : Nat) : RState S :=
  { st with failed := fun y => if y = x then true else st.failed y }

/-- what running pass `k` on `x` leaves: the returned state stored and `x` marked done for `k` (`ran`), or `x` marked failed (`raised`) -/
def RState.run1 (sys : Sys S) (k : Nat) (st : RState S) (x : Nat) : RState S :=
  match sys.apply k st.σ x with
  | some s => st.ran k x s
  | none => st.raised x

/-- `st'` comes from `st` by running pass `k` on modules in `P`, one after another, each of them neither failed nor done for `k` at
    that moment, and with all its children done for `k`. -/
inductive Run (sys : Sys S) (k : Nat) (P : Nat → Prop) : RState S → RState S → Prop
  | refl (st) : Run sys k P st st
  | step {st st'} (x : Nat) : Run sys k P st st' → P x → st'.failed x = false → st'.done k x = false →
      (∀ c ∈ sys.children x, st'.done k c = true) → Run sys k P st (st'.run1 sys k x)

variable {sys : Sys S} {k : Nat} {P Q : Nat → Prop} {a b c : RState S}

theorem Run.trans (h1 : Run sys k P a b) (h2 : Run sys k P b c) : Run sys k P a c := by
  induction h2 with
  | refl => exact h1
  | step x _ hx hf hd hc ih => exact .step x ih hx hf hd hc

theorem Run.mono (hPQ : ∀ x, P x → Q x) (h : Run sys k P a b) : Run sys k Q a b := by
  induction h with
  | refl => exact .refl _
  | step x _ hx hf hd hc ih => exact .step x ih (hPQ x hx) hf hd hc

theorem Run.frame (h : Run sys k P a b) (x : Nat) (hx : ¬ P x) :
    b.σ x = a.σ x ∧ (∀ j, b.done j x = a.done j x) ∧ b.failed x = a.failed x := by
  induction h with
  | refl => exact ⟨rfl, fun _ => rfl, rfl⟩
  | step y _ hy _ _ _ ih =>
    have hne : x ≠ y := fun e => hx (e ▸ hy)
    unfold RState.run1
    split
    · exact ⟨(if_neg hne).trans ih.1, fun j => (if_neg fun h => hne h.2).trans (ih.2.1 j), ih.2.2⟩
    · exact ⟨ih.1, ih.2.1, (if_neg hne).trans ih.2.2⟩

theorem Rel.run1 {st : RState S} {x : Nat} (hf : st.failed x = false) (hd : st.done k x = false)
    (hc : ∀ c ∈ sys.children x, st.done k c = true) : Rel sys k st (st.run1 sys k x) := by
  unfold RState.run1
  split
  · rename_i s _
    refine ⟨?_, ?_, ?_, fun _ h => h, ?_, ?_, ?_, ?_⟩
    · intro hcl y hy c' hc'
      have : st.done k c' = true := by
        by_cases hyx : y = x
        · subst hyx; exact hc c' hc'
        · exact hcl y (by simpa [RState.ran, hyx] using hy) c' hc'
      simp [RState.ran, this]
    · intro j y h; simp [RState.ran, h]
    · intro j y hj; exact if_neg fun h => hj h.1
    · intro y h1 h0; rw [show (st.ran k x s).failed y = st.failed y from rfl, h0] at h1; cases h1
    · intro y h1 h0
      by_cases hyx : y = x
      · exact hyx ▸ hf
      · rw [show (st.ran k x s).done k y = st.done k y from if_neg fun h => hyx h.2, h0] at h1; cases h1
    · intro y h
      have hyx : y ≠ x := fun e => by rw [e, hf] at h; cases h
      exact ⟨if_neg hyx, fun j => if_neg fun h => hyx h.2⟩
    · intro y h
      exact if_neg fun e => by rw [e, hd] at h; cases h
  · refine ⟨id, fun _ _ h => h, fun _ _ _ => rfl, ?_, ?_, ?_, ?_, fun _ _ => rfl⟩
    · intro y h; simp [RState.raised, h]
    · intro y h1 h0
      by_cases hyx : y = x
      · exact hyx ▸ hd
      · rw [show (st.raised x).failed y = st.failed y from if_neg hyx, h0] at h1; cases h1
    · intro y h1 h0; rw [show (st.raised x).done k y = st.done k y from rfl, h0] at h1; cases h1
    · intro y _; exact ⟨rfl, fun _ => rfl⟩

theorem Run.rel (h : Run sys k P a b) : Rel sys k a b := by
  induction h with
  | refl => exact Rel.refl ..
  | step x _ _ hf hd hc ih => exact ih.trans (Rel.run1 hf hd hc)

/-- Visits of a list of modules in turn, stopping at the first that does not complete: `visit`'s loop over the children of a
    module, and `elaborate`'s loop over the tops (for one pass). -/
def foldVisit (sys : Sys S) (k fuel : Nat) (cs : List Nat) (acc : RState S × Bool) : RState S × Bool :=
  cs.foldl (fun (acc : RState S × Bool) c => if acc.2 then visit sys k fuel acc.1 c else acc) acc

theorem foldVisit_false (sys : Sys S) (k fuel : Nat) (cs : List Nat) (st : RState S) :
    foldVisit sys k fuel cs (st, false) = (st, false) := by
  induction cs with
  | nil => rfl
  | cons c cs ih => exact ih

theorem foldVisit_cons (sys : Sys S) (k fuel : Nat) (c : Nat) (cs : List Nat) (st : RState S) :
    foldVisit sys k fuel (c :: cs) (st, true) = foldVisit sys k fuel cs (visit sys k fuel st c) := rfl

theorem visit_succ (sys : Sys S) (k fuel : Nat) (st : RState S) (m : Nat) (hf : st.failed m = false) (hd : st.done k m = false) :
    visit sys k (fuel + 1) st m =
      if (foldVisit sys k fuel (sys.children m) (st, true)).2
      then ((foldVisit sys k fuel (sys.children m) (st, true)).1.run1 sys k m,
            (sys.apply k (foldVisit sys k fuel (sys.children m) (st, true)).1.σ m).isSome)
      else foldVisit sys k fuel (sys.children m) (st, true) := by
  rw [visit, hf, hd]; unfold foldVisit
  generalize List.foldl _ (st, true) (sys.children m) = r
  obtain ⟨r1, b1⟩ := r
  cases b1
  · rfl
  · dsimp only [RState.run1]; cases sys.apply k r1.σ m <;> rfl

/-- What is known of visits of the modules `ms` in turn (of one module: `visit`; of a list: `foldVisit`) with result `r`, `P` holding
    of everything below them.  Modules are numbered above their children, so a visit of `m` needs `m + 1` fuel: with that much the
    visits stop short only at a failed module. -/
structure VisitSpec (sys : Sys S) (k fuel : Nat) (P : Nat → Prop) (st : RState S) (ms : List Nat) (r : RState S × Bool) : Prop where
  run : Run sys k P st r.1
  ok : r.2 = true → ∀ m ∈ ms, r.1.done k m = true
  stopped : (∀ m ∈ ms, m < fuel) → r.2 = false → ∃ x, r.1.failed x = true

theorem foldVisit_run {fuel : Nat} (hv : ∀ st c, VisitSpec sys k fuel (Reach sys c) st [c] (visit sys k fuel st c)) (cs : List Nat)
    (a : RState S) (hcs : ∀ c ∈ cs, ∀ x, Reach sys c x → P x) {r : RState S × Bool} (hr : foldVisit sys k fuel cs (a, true) = r) :
    VisitSpec sys k fuel P a cs r := by
  induction cs generalizing a with
  | nil => cases hr; exact ⟨.refl a, fun _ _ hc => (nomatch hc), fun _ => Bool.noConfusion⟩
  | cons c cs ih =>
    rw [foldVisit_cons] at hr
    obtain ⟨r1, ok1, no1⟩ := hv a c
    have r1 := r1.mono (hcs c (List.mem_cons_self ..))
    cases hvc : visit sys k fuel a c with
    | mk a1 b1 =>
      rw [hvc] at r1 ok1 no1 hr
      cases b1 with
      | false =>
        rw [foldVisit_false] at hr
        cases hr
        exact ⟨r1, Bool.noConfusion, fun hlt _ => no1 (List.forall_mem_singleton.2 (hlt c (List.mem_cons_self ..))) rfl⟩
      | true =>
        obtain ⟨r2, ok2, no2⟩ := ih a1 (fun x hx => hcs x (List.mem_cons_of_mem _ hx)) hr
        exact ⟨r1.trans r2, fun h => List.forall_mem_cons.mpr ⟨r2.rel.done_mono k c (ok1 rfl c (.head _)), ok2 h⟩,
          fun hlt => no2 fun c' hc' => hlt c' (List.mem_cons_of_mem _ hc')⟩

theorem visit_run (sys : Sys S) (hdag : ∀ m c, c ∈ sys.children m → c < m) (k fuel : Nat) (st : RState S) (m : Nat) :
    VisitSpec sys k fuel (Reach sys m) st [m] (visit sys k fuel st m) := by
  induction fuel generalizing st m with
  | zero => rw [visit]; exact ⟨.refl st, Bool.noConfusion, fun h => absurd (h m (.head _)) (Nat.not_lt_zero m)⟩
  | succ fuel ih =>
    cases hf : st.failed m with
    | true => rw [visit, hf]; exact ⟨.refl st, Bool.noConfusion, fun _ _ => ⟨m, hf⟩⟩
    | false =>
      cases hd : st.done k m with
      | true => rw [visit, hf, hd]; exact ⟨.refl st, fun _ => List.forall_mem_singleton.2 hd, fun _ => Bool.noConfusion⟩
      | false =>
        rw [visit_succ sys k fuel st m hf hd]
        generalize hr : foldVisit sys k fuel (sys.children m) (st, true) = r
        obtain ⟨hrun, hdone, hstop⟩ := foldVisit_run (P := fun x => ∃ c ∈ sys.children m, Reach sys c x) ih
          (sys.children m) st (fun c hc x hx => ⟨c, hc, hx⟩) hr
        -- `m` itself was not touched while its children were visited: it is below none of them
        obtain ⟨_, hdm, hfm⟩ := hrun.frame m fun ⟨c, hc, hr⟩ => Nat.lt_irrefl m (Nat.lt_of_le_of_lt (reach_lt sys hdag hr) (hdag m c hc))
        have hrun := hrun.mono (Q := Reach sys m) fun x ⟨c, hc, hr⟩ => .step m c x hc hr
        obtain ⟨r1, b1⟩ := r
        cases b1 with
        | false =>
          exact ⟨hrun, Bool.noConfusion,
            fun hlt => hstop fun c hc => Nat.lt_of_lt_of_le (hdag m c hc) (Nat.le_of_lt_succ (hlt m (.head _)))⟩
        | true =>
          -- the children are done: the pass runs on `m`, and either returns (`m` is done) or raises (`m` is failed)
          have hstep : Run sys k (Reach sys m) st (r1.run1 sys k m) :=
            .step m hrun (.refl m) (hfm.trans hf) ((hdm k).trans hd) (hdone rfl)
          show VisitSpec sys k (fuel + 1) (Reach sys m) st [m] (r1.run1 sys k m, (sys.apply k r1.σ m).isSome)
          unfold RState.run1 at hstep ⊢
          generalize sys.apply k r1.σ m = o at hstep ⊢
          cases o with
          | some s => exact ⟨hstep, fun _ => List.forall_mem_singleton.2 (if_pos ⟨rfl, rfl⟩), fun _ => Bool.noConfusion⟩
          | none => exact ⟨hstep, Bool.noConfusion, fun _ _ => ⟨m, if_pos rfl⟩⟩

theorem visit_rel (sys : Sys S) (hdag : ∀ m c, c ∈ sys.children m → c < m) (k fuel : Nat) (st : RState S) (m : Nat) :
    Rel sys k st (visit sys k fuel st m).1 :=
  (visit_run sys hdag k fuel st m).run.rel

end Hdl21.Runner
