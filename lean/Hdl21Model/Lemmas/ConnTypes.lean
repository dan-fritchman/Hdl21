/-
# ConnTypes.check_instance passes exactly on instances with every port connected once, nothing else, widths equal

On a dict `pop k` is a `filter` (`pop_snd`); `passes_eq_true_iff` is an induction over the target's ports along that.
-/
import Hdl21Model.ConnTypes
import Hdl21Model.Lemmas.List
namespace Hdl21.ConnTypes

theorem pop_fst_eq_find? (k : String) (l : List (String × SConn)) : (pop k l).1 = (l.find? (·.1 == k)).map (·.2) :=
  find?_fst_of_eqns (f := fun l => (pop k l).1) rfl (fun a c r => by show (pop k ((a, c) :: r)).1 = _; rw [pop]; split <;> rfl) l

theorem pop_fst_none {k : String} {l : List (String × SConn)} (h : (pop k l).1 = none) : k ∉ l.map (·.1) :=
  find?_fst_eq_none_iff.mp (pop_fst_eq_find? k l ▸ h)

theorem pop_fst_some {k : String} {c : SConn} {l : List (String × SConn)} (h : (pop k l).1 = some c) : (k, c) ∈ l :=
  mem_of_find?_fst (pop_fst_eq_find? k l ▸ h)

theorem pop_snd {k : String} {l : List (String × SConn)} (hnd : (l.map (·.1)).Nodup) :
    (pop k l).2 = l.filter (·.1 ≠ k) := by
  induction l with
  | nil => rfl
  | cons ac rest ih =>
    rw [List.map_cons, List.nodup_cons] at hnd
    rw [pop]
    split
    · rename_i hak
      -- `k` is the first key, so it is no key of the rest, which is what stays
      rw [List.filter_cons_of_neg (by simpa using hak), List.filter_eq_self.mpr]
      intro x hx
      exact decide_eq_true fun e : x.1 = k => hnd.1 (hak ▸ e ▸ List.mem_map_of_mem (f := (·.1)) hx)
    · rename_i hak
      rw [List.filter_cons_of_pos (by simpa using hak), ← ih hnd.2]

theorem compatible_eq_valid_iff (w : Nat) (c : SConn) : compatible w c = .valid ↔ c.width = .ok w := by
  unfold compatible
  cases c.width <;> simp

/-- **`check_instance` returns iff every port of the target is connected, to something of the port's width, and nothing else
    is connected.** -/
theorem passes_eq_true_iff (io : List (String × Nat)) (conns : List (String × SConn)) (hio : (io.map (·.1)).Nodup)
    (hc : (conns.map (·.1)).Nodup) :
    passes io conns = true ↔
      (∀ pw ∈ io, ∃ c, (pw.1, c) ∈ conns ∧ c.width = .ok pw.2) ∧ (∀ kc ∈ conns, kc.1 ∈ io.map (·.1)) := by
  induction io generalizing conns with
  | nil =>
    cases conns with
    | nil => simp [passes, checkPorts]
    | cons kc rest =>
      exact ⟨fun h => by simp [passes, checkPorts] at h, fun h => absurd (h.2 kc List.mem_cons_self) List.not_mem_nil⟩
  | cons pw io ih =>
    obtain ⟨p, w⟩ := pw
    rw [List.map_cons, List.nodup_cons] at hio
    have hmem : ∀ x, x ∈ (pop p conns).2 ↔ x ∈ conns ∧ x.1 ≠ p := by
      intro x; rw [pop_snd hc, List.mem_filter, decide_eq_true_eq]
    have ih := ih (pop p conns).2 hio.2 (by rw [pop_snd hc]; exact (List.filter_sublist.map _).nodup hc)
    rw [passes] at ih ⊢
    rw [checkPorts]
    split
    · -- no connection under `p`
      rename_i rest heq
      have hp := pop_fst_none (congrArg Prod.fst heq)
      refine ⟨fun h => by simp at h, fun ⟨hall, _⟩ => ?_⟩
      obtain ⟨c, hcm, _⟩ := hall (p, w) List.mem_cons_self
      exact absurd (List.mem_map_of_mem hcm) hp
    · rename_i c rest heq
      have hp := pop_fst_some (congrArg Prod.fst heq)
      obtain rfl : (pop p conns).2 = rest := congrArg Prod.snd heq
      rw [List.all_cons, Bool.and_eq_true, beq_iff_eq, compatible_eq_valid_iff, ih]
      constructor
      · rintro ⟨hw, hall, hex⟩
        refine ⟨fun pw hpw => ?_, fun kc hkc => ?_⟩
        · rcases List.mem_cons.mp hpw with rfl | hpw
          · exact ⟨c, hp, hw⟩
          · obtain ⟨c', hc', hw'⟩ := hall pw hpw
            exact ⟨c', ((hmem _).mp hc').1, hw'⟩
        · by_cases hk : kc.1 = p
          · exact hk ▸ List.mem_cons_self
          · exact List.mem_cons_of_mem _ (hex kc ((hmem kc).mpr ⟨hkc, hk⟩))
      · rintro ⟨hall, hex⟩
        refine ⟨?_, fun pw hpw => ?_, fun kc hkc => ?_⟩
        · obtain ⟨c', hc', hw'⟩ := hall (p, w) List.mem_cons_self
          exact snd_eq_of_nodup_fst hc hc' hp ▸ hw'
        · obtain ⟨c', hc', hw'⟩ := hall pw (List.mem_cons_of_mem _ hpw)
          exact ⟨c', (hmem _).mpr ⟨hc', fun e : pw.1 = p => hio.1 (e ▸ List.mem_map_of_mem (f := (·.1)) hpw)⟩, hw'⟩
        · obtain ⟨hkc, hne⟩ := (hmem kc).mp hkc
          exact (List.mem_cons.mp (hex kc hkc)).resolve_left hne

end Hdl21.ConnTypes
