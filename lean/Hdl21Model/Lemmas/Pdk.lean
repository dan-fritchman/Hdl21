/-
Two topics. `visitInst` and the selections of Pdk.lean read backwards; the walk's two loops (and `visitMod` around one of them) are
`List.mapM`, read through Lemmas/MapM. And "strings by number" (`strCode`, from `bytesCode` on), what the table theorems of Props/C15 search by.
-/
import Hdl21Model.Pdk
import Hdl21Model.Lemmas.MapM
import Hdl21Model.Lemmas.List
namespace Hdl21.Pdk

theorem visitInst_spec {dm : DevMap} {i i' : Inst} (h : visitInst dm i = .ok i') :
    ∃ t, i' = { i with target := t } ∧ (t = i.target ∨ ∃ k p, i.target = .prim k p ∧ dm k p = some (.ok t)) := by
  unfold visitInst at h
  split at h
  · rename_i k p ht
    split at h <;> cases h
    · exact ⟨_, rfl, .inl rfl⟩
    · rename_i hd; exact ⟨_, rfl, .inr ⟨k, p, ht, hd⟩⟩
  · cases h; exact ⟨_, rfl, .inl rfl⟩

theorem visitInst_error {dm : DevMap} {i : Inst} {e : String} (h : visitInst dm i = .error e) :
    ∃ k p, i.target = .prim k p ∧ dm k p = some (.error e) := by
  unfold visitInst at h
  split at h
  · rename_i k p ht
    split at h <;> cases h
    rename_i hd; exact ⟨k, p, ht, hd⟩
  · cases h

theorem visitInst_target_congr (dm : DevMap) {i₁ i₂ : Inst} (ht : i₁.target = i₂.target) :
    (·.target) <$> visitInst dm i₁ = (·.target) <$> visitInst dm i₂ := by
  obtain ⟨n₁, t, c₁⟩ := i₁
  obtain ⟨n₂, _, c₂⟩ := i₂
  cases ht
  cases t with
  | prim k p =>
    simp only [visitInst]
    cases dm k p with
    | none => rfl
    | some r => cases r <;> rfl
  | module _ | ext _ _ => rfl

theorem visitInsts_eq_mapM (dm : DevMap) (l : List Inst) : visitInsts dm l = l.mapM (visitInst dm) := by
  induction l with
  | nil => rfl
  | cons i r ih =>
    rw [visitInsts, List.mapM_cons, ih]
    cases visitInst dm i with
    | error e => rfl
    | ok i' => cases r.mapM (visitInst dm) <;> rfl

theorem visitMod_eq (dm : DevMap) (m : Mod) :
    visitMod dm m = (fun insts => { m with insts := insts }) <$> m.insts.mapM (visitInst dm) := by
  rw [visitMod, visitInsts_eq_mapM]
  cases m.insts.mapM (visitInst dm) <;> rfl

theorem compileFrom_eq_mapM (dm : DevMap) (reach : Nat → Bool) (k : Nat) (d : List Mod) :
    compileFrom dm reach k d =
      (d.zipIdx k).mapM fun mn : Mod × Nat => if reach mn.2 then visitMod dm mn.1 else .ok mn.1 := by
  induction d generalizing k with
  | nil => rfl
  | cons m r ih =>
    rw [compileFrom, List.zipIdx_cons, List.mapM_cons, ih]
    cases (if reach k then visitMod dm m else .ok m) with
    | error e => rfl
    | ok m' =>
      cases (r.zipIdx (k + 1)).mapM fun mn : Mod × Nat => if reach mn.2 then visitMod dm mn.1 else .ok mn.1 <;> rfl

theorem compileFrom_spec {dm : DevMap} {reach : Nat → Bool} {k : Nat} {d d' : List Mod}
    (h : compileFrom dm reach k d = .ok d') :
    d'.length = d.length ∧
    ∀ (n : Nat) (m m' : Mod), d[n]? = some m → d'[n]? = some m' →
      m' = m ∨ (reach (k + n) = true ∧
        ∃ insts, m.insts.mapM (visitInst dm) = .ok insts ∧ m' = { m with insts := insts }) := by
  rw [compileFrom_eq_mapM] at h
  refine ⟨by rw [mapM_length h, List.length_zipIdx], fun n m m' hm hm' => ?_⟩
  have hs := mapM_getElem? h (a := (m, k + n)) (by rw [List.getElem?_zipIdx, hm]; rfl) hm'
  split at hs
  · rename_i hr
    rw [visitMod_eq, Except.map_eq_ok] at hs
    obtain ⟨insts, hv, rfl⟩ := hs
    exact Or.inr ⟨hr, insts, hv, rfl⟩
  · injection hs with hs
    exact Or.inl hs.symm

theorem selectByKey_self {tbl : List MosEntry} (h : (tbl.map (·.key)).Nodup) {e : MosEntry} (he : e ∈ tbl) :
    selectByKey tbl e.key = some e := find?_key_self MosEntry.key h he

theorem selectModel_self {tbl : List ModelEntry} (h : (tbl.map (·.key)).Nodup) {e : ModelEntry} (he : e ∈ tbl) :
    selectModel tbl (some e.key) = .found e := by
  simp only [selectModel, find?_key_self ModelEntry.key h he]

/-- with a model name both selections are the search by key: Sky130's first, Gf180's second -/
theorem selectMos_by_name {tbl : List MosEntry} {r : MosReq} {m : String} {e : MosEntry} (hm : r.model = some m) :
    (selectMosSky130 tbl r = .found e ↔ selectByKey tbl m = some e) ∧
    (selectMosGf180 tbl r = .found e ↔ selectByKey tbl m = some e) := by
  simp only [selectMosSky130, selectMosGf180, hm]
  cases selectByKey tbl m <;> simp

/-! ## Strings by number

The kernel compares `Nat` literals natively, but unfolds `String.decEq` to a walk over two UTF-8 byte lists, which it rebuilds from
the literals.  The table theorems therefore search by `strCode`: each string is converted once, every comparison is one of numbers. -/

/-- the bytes as one number: bijective base-256, last byte first -/
def bytesCode : List UInt8 → Nat
  | [] => 0
  | b :: r => bytesCode r * 256 + b.toNat + 1

def strCode (s : String) : Nat := bytesCode s.toByteArray.data.toList

theorem bytesCode_inj {l l' : List UInt8} (h : bytesCode l = bytesCode l') : l = l' := by
  induction l generalizing l' with
  | nil => cases l' with
    | nil => rfl
    | cons b r => exact absurd h (Nat.succ_ne_zero _).symm
  | cons b r ih => cases l' with
    | nil => exact absurd h (Nat.succ_ne_zero _)
    | cons b' r' =>
      -- the last digit and the rest
      have h := Nat.succ.inj h
      have hb := congrArg (· % 256) h
      have hr := congrArg (· / 256) h
      simp only [Nat.mul_add_mod_self_right, Nat.mod_eq_of_lt b.toNat_lt, Nat.mod_eq_of_lt b'.toNat_lt] at hb
      simp only [Nat.mul_add_div (by decide : 256 > 0), Nat.div_eq_of_lt b.toNat_lt, Nat.div_eq_of_lt b'.toNat_lt, Nat.add_zero,
        Nat.mul_comm _ 256] at hr
      rw [ih hr, UInt8.toNat_inj.1 hb]

theorem strCode_inj {s t : String} (h : strCode s = strCode t) : s = t :=
  String.toByteArray_inj.1 (ByteArray.ext (Array.toList_inj.1 (bytesCode_inj h)))

theorem nodup_of_strCode {l : List String} (h : (l.map strCode).Nodup) : l.Nodup :=
  (List.pairwise_map.1 h).imp fun hne he => hne (congrArg strCode he)

theorem all_find?_isSome_of_strCode {α β : Type} (nameA : α → String) (nameB : β → String) {l : List α} {tbl : List β}
    (h : (l.all fun e => (tbl.map (strCode <| nameB ·)).contains (strCode (nameA e))) = true) :
    (l.all fun e => (tbl.find? (nameB · == nameA e)).isSome) = true :=
  List.all_eq_true.2 fun e he => by
    obtain ⟨a, ha, hc⟩ := List.mem_map.1 (List.contains_iff_mem.1 (List.all_eq_true.1 h e he))
    exact List.find?_isSome.2 ⟨a, ha, beq_iff_eq.2 (strCode_inj hc)⟩

end Hdl21.Pdk
