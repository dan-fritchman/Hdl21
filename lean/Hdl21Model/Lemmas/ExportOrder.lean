/-
# The exporter's two module traversals: the loop lemmas, the growth relation `NStep`, `Closed` under appending    — C06

Both traversals of the exporter are loops inside loops over a state that only grows; what a loop does is read off what one
round does (`foldl_chain` for `List.foldl`, `foldOpt_chain` for the loop that stops at the first failure).
-/
import Hdl21Model.ExportOrder
namespace Hdl21.ExportOrder

theorem foldl_chain {α : Type} {P : List α → Prop} {f : List α → α → List α} (l : List α)
    (round : ∀ d, P d → ∀ a ∈ l, P (f d a) ∧ d ⊆ f d a ∧ a ∈ f d a) (d : List α) (hd : P d) :
    P (l.foldl f d) ∧ d ⊆ l.foldl f d ∧ ∀ a ∈ l, a ∈ l.foldl f d := by
  induction l generalizing d with
  | nil => exact ⟨hd, fun _ h => h, nofun⟩
  | cons a l ih =>
    obtain ⟨h1, r1, q1⟩ := round d hd a List.mem_cons_self
    obtain ⟨h2, r2, q2⟩ := ih (fun d hd b hb => round d hd b (List.mem_cons_of_mem _ hb)) (f d a) h1
    refine ⟨h2, r1.trans r2, fun b hb => ?_⟩
    rcases List.mem_cons.mp hb with rfl | hb
    · exact r2 q1
    · exact q2 b hb

/-- how the state grows; `fresh`: whatever is newly exported has a name that was not reserved before -/
structure NStep (name : Nat → String) (s s' : NState) : Prop where
  mono : ∀ n ∈ s.reserved, n ∈ s'.reserved
  keep : ∀ x ∈ s.done, x ∈ s'.done
  fresh : ∀ x ∈ s'.done, x ∈ s.done ∨ name x ∉ s.reserved

theorem NStep.refl (name : Nat → String) (s : NState) : NStep name s s :=
  ⟨fun _ h => h, fun _ h => h, fun _ h => .inl h⟩

theorem NStep.trans {name : Nat → String} {a b c : NState} (h₁ : NStep name a b) (h₂ : NStep name b c) : NStep name a c :=
  ⟨fun n hn => h₂.mono n (h₁.mono n hn), fun x hx => h₂.keep x (h₁.keep x hx),
    fun x hx => (h₂.fresh x hx).elim (h₁.fresh x) fun h => .inr fun hin => h (h₁.mono _ hin)⟩

theorem foldOpt_chain {name : Nat → String} {P : NState → Prop} {f : NState → Nat → Option NState} (l : List Nat)
    (round : ∀ s, P s → ∀ a ∈ l, ∀ s', f s a = some s' → P s' ∧ NStep name s s' ∧ a ∈ s'.done) (s s' : NState) (hs : P s)
    (h : foldOpt f s l = some s') : P s' ∧ NStep name s s' ∧ ∀ a ∈ l, a ∈ s'.done := by
  induction l generalizing s with
  | nil => cases h; exact ⟨hs, .refl name _, nofun⟩
  | cons a l ih =>
    rw [foldOpt] at h
    split at h
    · cases h
    rename_i s₁ ha
    obtain ⟨h1, r1, q1⟩ := round s hs a List.mem_cons_self s₁ ha
    obtain ⟨h2, r2, q2⟩ := ih (fun s hs b hb => round s hs b (List.mem_cons_of_mem _ hb)) s₁ h1 h
    refine ⟨h2, r1.trans r2, fun b hb => ?_⟩
    rcases List.mem_cons.mp hb with rfl | hb
    · exact r2.keep _ q1
    · exact q2 b hb

theorem closed_nil (ch : Nat → List Nat) : Closed ch [] := by
  intro i x h; simp at h

theorem closed_snoc {ch : Nat → List Nat} {l : List Nat} {m : Nat}
    (hc : Closed ch l) (hm : ∀ c ∈ ch m, c ∈ l) : Closed ch (l ++ [m]) := by
  intro i x h c hcx
  rcases Nat.lt_or_ge i l.length with hi | hi
  · rw [List.getElem?_append_left hi] at h
    rw [List.take_append_of_le_length (Nat.le_of_lt hi)]
    exact hc i x h c hcx
  · rw [List.getElem?_append_right hi, List.getElem?_singleton] at h
    split at h
    · cases h
      rw [List.take_left' (by omega)]
      exact hm c hcx
    · cases h

end Hdl21.ExportOrder
