/-
`val : ℚ`, the exact value of the model's decimals (Prefix.lean).  Rounding is a relation (`IsRoundHalfEven`: monotone, hence unique)
that `divHalfEven` and `roundTo` meet; every arithmetic operation is exact on `val`.  The model's integer powers `10 ^ k.toNat`
meet `ℚ`'s `zpow` in `cast_pow_toNat` and nowhere else.
-/
import Hdl21Model.Prefix
import Mathlib.Algebra.Order.Field.Basic
import Mathlib.Algebra.Order.Field.Rat
import Mathlib.Data.Int.Cast.Lemmas
import Mathlib.Data.Int.Cast.Field

namespace Hdl21

/-- The exact value of a Decimal representation. -/
def Dec.val (d : Dec) : ℚ := (d.c : ℚ) * (10 : ℚ) ^ d.e

/-- The exact value of a prefixed number. -/
def Prefixed.val (p : Prefixed) : ℚ := p.number.val * (10 : ℚ) ^ p.pre

theorem ten_ne : (10 : ℚ) ≠ 0 := OfNat.ofNat_ne_zero 10
theorem ten_pos (k : ℤ) : (0 : ℚ) < (10 : ℚ) ^ k := zpow_pos (Nat.ofNat_pos (α := ℚ)) k

theorem cast_pow_toNat {k : ℤ} (h : 0 ≤ k) : ((10 ^ k.toNat : ℤ) : ℚ) = (10 : ℚ) ^ k := by
  rw [Int.cast_pow, Int.cast_ofNat, ← zpow_natCast, Int.toNat_of_nonneg h]

theorem mul_zpow_nonpos {x : ℚ} {E : ℤ} (h : E ≤ 0) :
    x * (10 : ℚ) ^ E = x / ((10 ^ (-E).toNat : ℤ) : ℚ) := by
  rw [cast_pow_toNat (neg_nonneg.2 h), zpow_neg, div_inv_eq_mul]

theorem pow_toNat_pos {k : ℤ} : (0 : ℤ) < 10 ^ k.toNat := pow_pos (by decide) _

/-- Nearest-integer-ties-to-even, as a relation between a rational and an integer. -/
def IsRoundHalfEven (x : ℚ) (r : ℤ) : Prop :=
  |(r : ℚ) - x| < 1 / 2 ∨ (|(r : ℚ) - x| = 1 / 2 ∧ r % 2 = 0)

theorem IsRoundHalfEven.dist_le {x : ℚ} {r : ℤ} (h : IsRoundHalfEven x r) : |(r : ℚ) - x| ≤ 1 / 2 :=
  h.elim le_of_lt fun h => le_of_eq h.1

theorem IsRoundHalfEven.intCast (r : ℤ) : IsRoundHalfEven (r : ℚ) r := by
  left
  rw [sub_self, abs_zero]
  exact one_half_pos

/-- If `x ≤ y` but `s < r`, then `1 ≤ r - s ≤ |r - x| + |s - y| ≤ 1`: both are ties, so both roundings are even, and yet they
    are exactly one apart. -/
theorem IsRoundHalfEven.mono {x y : ℚ} {r s : ℤ} (hr : IsRoundHalfEven x r) (hs : IsRoundHalfEven y s)
    (hxy : x ≤ y) : r ≤ s := by
  by_contra hlt
  have h1 : (1 : ℚ) ≤ ((r - s : ℤ) : ℚ) := Int.cast_one_le_of_pos (sub_pos.2 (not_le.1 hlt))
  have h2 : ((r - s : ℤ) : ℚ) ≤ |(r : ℚ) - x| + |(s : ℚ) - y| := by
    rw [Int.cast_sub]
    calc (r : ℚ) - s ≤ (r - s) - (x - y) := (le_sub_self_iff _).2 (sub_nonpos.2 hxy)
      _ = (r - x) - (s - y) := sub_sub_sub_comm _ _ _ _
      _ ≤ |(r : ℚ) - x| + |(s : ℚ) - y| := by
        rw [sub_eq_add_neg]
        exact add_le_add (le_abs_self _) (neg_le_abs _)
  rcases hr with hr | ⟨hr, er⟩
  · -- `r` is not a tie: the distances add up to less than one
    exact absurd (h1.trans h2) (not_le.2 (add_halves (1 : ℚ) ▸ add_lt_add_of_lt_of_le hr hs.dist_le))
  rcases hs with hs | ⟨hs, es⟩
  · exact absurd (h1.trans h2) (not_le.2 (add_halves (1 : ℚ) ▸ add_lt_add_of_le_of_lt hr.le hs))
  · rw [hr, hs, add_halves, ← Int.cast_one, Int.cast_le, sub_le_iff_le_add'] at h2
    rw [le_antisymm h2 (not_le.1 hlt), Int.add_emod, es] at er
    exact absurd er (by decide)

theorem IsRoundHalfEven.unique {x : ℚ} {r s : ℤ} (hr : IsRoundHalfEven x r) (hs : IsRoundHalfEven x s) :
    r = s :=
  le_antisymm (hr.mono hs le_rfl) (hs.mono hr le_rfl)

/-- More than one apart, two numbers are rounded in their own order: `r ≤ x + 1/2 < y - 1/2 ≤ s`, and back by monotonicity. -/
theorem IsRoundHalfEven.lt_iff_lt {x y : ℚ} {r s : ℤ} (hr : IsRoundHalfEven x r) (hs : IsRoundHalfEven y s)
    (h : 1 < |x - y|) : r < s ↔ x < y := by
  refine ⟨fun hrs => lt_of_not_ge fun hyx => not_le_of_gt hrs (hs.mono hr hyx), fun hxy => ?_⟩
  rw [abs_of_neg (sub_neg.2 hxy), neg_sub, lt_sub_iff_add_lt'] at h
  have h1 : (r : ℚ) ≤ x + 1 / 2 := sub_le_iff_le_add'.1 (le_of_abs_le hr.dist_le)
  have hs' : |y - (s : ℚ)| ≤ 1 / 2 := abs_sub_comm (s : ℚ) y ▸ hs.dist_le
  have h2 : y - 1 / 2 ≤ (s : ℚ) := sub_le_comm.1 (le_of_abs_le hs')
  have h3 : x + 1 / 2 < y - 1 / 2 := by
    rw [lt_sub_iff_add_lt, add_assoc, add_halves]
    exact h
  exact Int.cast_lt.1 (h1.trans_lt (h3.trans_le h2))

theorem isRoundHalfEven_div {n d r : ℤ} (hd : 0 < d) :
    IsRoundHalfEven ((n : ℚ) / d) r ↔ |r * d - n| * 2 < d ∨ (|r * d - n| * 2 = d ∧ r % 2 = 0) := by
  have hdq : (0 : ℚ) < d := Int.cast_pos.2 hd
  have e : (r : ℚ) - n / d = ((r * d - n : ℤ) : ℚ) / d := by
    rw [Int.cast_sub, Int.cast_mul, sub_div, mul_div_cancel_right₀ _ hdq.ne']
  unfold IsRoundHalfEven
  rw [e, abs_div, abs_of_pos hdq, div_lt_div_iff₀ hdq two_pos, div_eq_div_iff hdq.ne' two_ne_zero,
    one_mul, ← Int.cast_abs, ← Int.cast_two, ← Int.cast_mul, Int.cast_lt, Int.cast_inj]

/-- With `n = q * d + m`, `0 ≤ m < d`, the result is `q` at distance `m` or `q + 1` at distance `d - m`, whichever is smaller,
    the even one at a tie. -/
theorem divHalfEven_int (n d : ℤ) (hd : 0 < d) :
    |Dec.divHalfEven n d * d - n| * 2 < d ∨
      (|Dec.divHalfEven n d * d - n| * 2 = d ∧ Dec.divHalfEven n d % 2 = 0) := by
  have hm0 : 0 ≤ n % d := Int.emod_nonneg n hd.ne'
  have hm1 : n % d ≤ d := (Int.emod_lt_of_pos n hd).le
  have hn : n / d * d + n % d = n := Int.ediv_mul_add_emod n d
  unfold Dec.divHalfEven
  simp only []
  generalize n / d = q at *
  generalize n % d = m at *
  have lo : |q * d - n| = m := by
    rw [← hn, sub_add_cancel_left, abs_neg, abs_of_nonneg hm0]
  have hi : |(q + 1) * d - n| = d - m := by
    rw [← hn, add_mul, one_mul, add_sub_add_left_eq_sub, abs_of_nonneg (sub_nonneg.2 hm1)]
  rcases lt_trichotomy (2 * m) d with h | h | h
  · rw [if_pos h, lo, mul_comm]
    exact Or.inl h
  · have hi' : d - m = m := sub_eq_of_eq_add (h.symm.trans (two_mul m))
    have tie : m * 2 = d := (mul_comm m 2).trans h
    rw [h, if_neg (lt_irrefl d), if_neg (lt_irrefl d)]
    by_cases hq : q % 2 = 0
    · rw [if_pos hq, lo]
      exact Or.inr ⟨tie, hq⟩
    · rw [if_neg hq, hi, hi', Int.add_emod, Int.emod_two_ne_zero.1 hq]
      exact Or.inr ⟨tie, rfl⟩
  · -- nearer to `q + 1`: `(d - m) * 2 < d` is `d * 2 - d < m * 2`
    rw [if_neg (not_lt_of_gt h), if_pos h, hi, sub_mul, sub_lt_comm, mul_two, add_sub_cancel_right,
      mul_comm]
    exact Or.inl h

theorem divHalfEven_spec (n : ℤ) {d : ℤ} (hd : 0 < d) :
    IsRoundHalfEven ((n : ℚ) / d) (Dec.divHalfEven n d) :=
  (isRoundHalfEven_div hd).2 (divHalfEven_int n d hd)

/-- `round(d, places)` is the half-even rounding of `d · 10^places`. -/
theorem roundTo_spec (d : Dec) (places : ℕ) :
    IsRoundHalfEven (d.val * (10 : ℚ) ^ (places : ℤ)) (d.roundTo places) := by
  unfold Dec.roundTo Dec.val
  simp only []
  rw [mul_assoc, ← zpow_add₀ ten_ne]
  split
  · rename_i h
    rw [← cast_pow_toNat h, ← Int.cast_mul]
    exact IsRoundHalfEven.intCast _
  · rename_i h
    rw [mul_zpow_nonpos (not_le.1 h).le]
    exact divHalfEven_spec d.c pow_toNat_pos

/-- Rounding is a function of the value, not of the representation. -/
theorem roundTo_congr (a b : Dec) (places : ℕ) (h : a.val = b.val) :
    a.roundTo places = b.roundTo places :=
  (h ▸ roundTo_spec a places).unique (roundTo_spec b places)

/-- Truncating division by a positive integer: the quotient towards zero. -/
theorem tdiv_spec (c m : ℤ) (hm : 0 < m) :
    |c.tdiv m| * m ≤ |c| ∧ |c| < (|c.tdiv m| + 1) * m ∧ 0 ≤ c.tdiv m * c := by
  -- for `c ≥ 0` these are the facts of floor division
  have key : ∀ c : ℤ, 0 ≤ c → 0 ≤ c.tdiv m ∧ c.tdiv m * m ≤ c ∧ c < (c.tdiv m + 1) * m := by
    intro c hc
    refine ⟨Int.tdiv_nonneg hc hm.le, ?_, Int.lt_tdiv_add_one_mul_self c hm⟩
    rw [Int.tdiv_eq_ediv_of_nonneg hc]
    exact Int.ediv_mul_le c hm.ne'
  rcases le_total 0 c with hc | hc
  · obtain ⟨k0, k1, k2⟩ := key c hc
    rw [abs_of_nonneg k0, abs_of_nonneg hc]
    exact ⟨k1, k2, mul_nonneg k0 hc⟩
  · -- for `c ≤ 0`, `c.tdiv m = -((-c).tdiv m)`
    obtain ⟨k0, k1, k2⟩ := key (-c) (neg_nonneg.2 hc)
    rw [Int.neg_tdiv, neg_nonneg] at k0
    rw [Int.neg_tdiv] at k1 k2
    rw [abs_of_nonpos k0, abs_of_nonpos hc]
    exact ⟨k1, k2, mul_nonneg_of_nonpos_of_nonpos k0 hc⟩

theorem tdiv_spec_rat {c m : ℤ} (hm : 0 < m) :
    |((c.tdiv m : ℤ) : ℚ)| ≤ |(c : ℚ) / m| ∧ |(c : ℚ) / m| < |((c.tdiv m : ℤ) : ℚ)| + 1 ∧
      0 ≤ ((c.tdiv m : ℤ) : ℚ) * ((c : ℚ) / m) := by
  have hmq : (0 : ℚ) < m := Int.cast_pos.2 hm
  obtain ⟨s1, s2, s3⟩ := tdiv_spec c m hm
  rw [abs_div, abs_of_pos hmq, le_div_iff₀ hmq, div_lt_iff₀ hmq, mul_div_assoc', ← Int.cast_abs,
    ← Int.cast_abs]
  refine ⟨?_, ?_, div_nonneg ?_ hmq.le⟩
  · rw [← Int.cast_mul, Int.cast_le]
    exact s1
  · rw [← Int.cast_one, ← Int.cast_add, ← Int.cast_mul, Int.cast_lt]
    exact s2
  · rw [← Int.cast_mul, Int.cast_nonneg_iff]
    exact s3

/-- `int(d)` is the integer part of `d`'s value: towards zero, less than one away. -/
theorem Dec.toInt_spec (d : Dec) :
    |(d.toInt : ℚ)| ≤ |d.val| ∧ |d.val| < |(d.toInt : ℚ)| + 1 ∧ 0 ≤ (d.toInt : ℚ) * d.val := by
  unfold Dec.toInt Dec.val
  split
  · -- an integer: it is its own truncation
    rename_i h
    rw [Int.cast_mul, cast_pow_toNat h]
    exact ⟨le_refl _, lt_add_one _, mul_self_nonneg _⟩
  · rename_i h
    rw [mul_zpow_nonpos (not_le.1 h).le]
    exact tdiv_spec_rat pow_toNat_pos

theorem Dec.mulPow10_val (d : Dec) (k : ℤ) : (d.mulPow10 k).val = d.val * (10 : ℚ) ^ k := by
  unfold Dec.mulPow10 Dec.val
  split
  · rename_i h
    rw [Int.cast_mul, cast_pow_toNat h, mul_right_comm]
  · simp only []
    rw [zpow_add₀ ten_ne, mul_assoc]

theorem shift_val (c e m : ℤ) (h : m ≤ e) :
    ((c * 10 ^ (e - m).toNat : ℤ) : ℚ) * (10 : ℚ) ^ m = (c : ℚ) * (10 : ℚ) ^ e := by
  rw [Int.cast_mul, cast_pow_toNat (sub_nonneg.2 h), mul_assoc, ← zpow_add₀ ten_ne, sub_add_cancel]

theorem Dec.c_eq_of_val_eq {x y : Dec} (hle : x.e ≤ y.e) (hv : x.val = y.val) :
    x.c = y.c * 10 ^ (y.e - x.e).toNat :=
  Int.cast_injective (α := ℚ)
    (mul_right_cancel₀ (ten_pos x.e).ne' (hv.trans (shift_val y.c y.e x.e hle).symm))

theorem Dec.neg_val (d : Dec) : d.neg.val = -d.val := by
  unfold Dec.neg Dec.val
  rw [Int.cast_neg, neg_mul]

theorem Dec.abs_val (d : Dec) : d.abs.val = |d.val| := by
  unfold Dec.abs Dec.val
  rw [abs_mul, abs_of_pos (ten_pos d.e)]
  rw [Int.cast_natCast, Nat.cast_natAbs, Int.cast_abs]

theorem Dec.mul_val (a b : Dec) : (a.mul b).val = a.val * b.val := by
  unfold Dec.mul Dec.val
  rw [Int.cast_mul, zpow_add₀ ten_ne, mul_mul_mul_comm]

theorem Dec.add_val (a b : Dec) : (a.add b).val = a.val + b.val := by
  unfold Dec.add Dec.val
  rw [Int.cast_add, add_mul, shift_val a.c a.e _ (min_le_left _ _),
    shift_val b.c b.e _ (min_le_right _ _)]

theorem Dec.sub_val (a b : Dec) : (a.sub b).val = a.val - b.val := by
  unfold Dec.sub
  rw [Dec.add_val, Dec.neg_val, sub_eq_add_neg]

theorem Dec.scaleb_val (d : Dec) (k : ℤ) : (d.scaleb k).val = d.val * (10 : ℚ) ^ k := by
  unfold Dec.scaleb Dec.val
  rw [zpow_add₀ ten_ne, mul_assoc]

theorem Prefixed.value_val (p : Prefixed) : p.value.val = p.val := Dec.scaleb_val _ _

theorem Prefixed.scale_val (p : Prefixed) {t : ℤ} : (p.scale t).val = p.val := by
  unfold Prefixed.scale Prefixed.val
  rw [Dec.mulPow10_val, mul_assoc, ← zpow_add₀ ten_ne, sub_add_cancel]

/-- `_add` and `_sub` are one scheme: bring both numbers to a common prefix (their own if equal, else the smaller) and
    combine the mantissas there. -/
theorem Prefixed.atCommonPrefix_val {f : Dec → Dec → Dec} {g : ℚ → ℚ → ℚ}
    (hf : ∀ x y, (f x y).val = g x.val y.val) (hg : ∀ x y z : ℚ, g x y * z = g (x * z) (y * z)) (a b : Prefixed) :
    (if a.pre = b.pre then ⟨f a.number b.number, a.pre⟩
      else
        let s := if a.pre < b.pre then a.pre else b.pre
        (⟨f (a.scale s).number (b.scale s).number, s⟩ : Prefixed)).val = g a.val b.val := by
  split
  · next h => simp only [Prefixed.val, hf, hg, h]
  · exact (congrArg₂ _ (hf _ _) rfl).trans ((hg _ _ _).trans (congrArg₂ g (scale_val a) (scale_val b)))

theorem Prefixed.round_scale (p : Prefixed) {s : ℤ} :
    IsRoundHalfEven (p.val * (10 : ℚ) ^ (20 - s)) ((p.scale s).number.roundTo Prefixed.epsilon) := by
  have e : (p.scale s).number.val * (10 : ℚ) ^ ((Prefixed.epsilon : ℕ) : ℤ) =
      p.val * (10 : ℚ) ^ (20 - s) := by
    unfold Prefixed.scale Prefixed.val Prefixed.epsilon
    rw [Dec.mulPow10_val, mul_assoc, mul_assoc, ← zpow_add₀ ten_ne, ← zpow_add₀ ten_ne, Nat.cast_ofNat,
      sub_add_eq_add_sub, add_sub_assoc]
  exact e ▸ roundTo_spec (p.scale s).number Prefixed.epsilon

end Hdl21
