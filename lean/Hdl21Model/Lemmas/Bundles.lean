/-
What `leafOut`, `connectByPath` and `flattenSubs` (Bundles.lean) compute: the direction rule in closed form, the loop as `List.mapM`,
the head of every flattened path of a sub-bundle.
-/
import Hdl21Model.Bundles
namespace Hdl21.Bundles

theorem leafOut_eq (p flip : Bool) (role : Option String) (l : Leaf) :
    leafOut p flip role l = ⟨[l.name], l.width, p, if p then dirRule l flip role else .none⟩ := by
  cases p
  · rfl
  · unfold leafOut dirRule
    cases l.isPort
    · simp
    · cases l.dir <;> cases flip <;> simp [Dir.flipped]

theorem connectByPath_eq_mapM (pi qi : String) (qs ps : List Flat) :
    connectByPath pi qi qs ps =
      ps.mapM fun p => (qs.find? (fun q => q.path = p.path)).map fun q => (flatName pi p.path, flatName qi q.path) := by
  induction ps with
  | nil => rfl
  | cons p rest ih =>
    rw [connectByPath, List.mapM_cons, ih]
    cases qs.find? (fun q => q.path = p.path) <;> cases (List.mapM _ rest : Option _) <;> rfl

theorem flattenSubs_path_head (p fl : Bool) (subs : List (String × Bool × Option String × BTree)) (f : Flat)
    (h : f ∈ flattenSubs p fl subs) : ∃ m ∈ subs.map (·.1), ∃ q, f.path = m :: q := by
  induction subs with
  | nil => cases h
  | cons s rest ih =>
    obtain ⟨n, fl', r, t⟩ := s
    rcases List.mem_append.mp h with h1 | h2
    · obtain ⟨y, _, rfl⟩ := List.mem_map.mp h1
      exact ⟨n, List.mem_cons_self .., y.path, rfl⟩
    · obtain ⟨m, hm, q, hq⟩ := ih h2
      exact ⟨m, List.mem_cons_of_mem _ hm, q, hq⟩

end Hdl21.Bundles
