/-
# One induction over the runs of the SliceResolver                                              — C03 (C01, C02, C06, C11)

`listSlice` / `consSlice` / `resolveSliceable` / `resolveParts` recurse through each other on a fuel.  `resolve_induct` is the
induction over their successful runs, one hypothesis per execution path; every "whatever the resolver returns …" theorem
(`resolve_sound`, `resolve_keeps`, `resolve_nf` and with it `resolve_flat`, `resolve_unit`, `resolve_only_denoting`) is an instance.
The two directions of `consSlice` are one path (`consSlice_succ`, through `Inner.first` and `Inner.tailIdx`), the three result
shapes of the `_resolve_concat` loop are one (`resolveParts_cons`, through `SConn.parts`).
-/
import Hdl21Model.Lemmas.Conn
namespace Hdl21

def SConn.parts : SConn → List SConn
  | .concat ps => ps
  | c => [c]

theorem splice_cons (c : SConn) (ls : List SConn) : splice (c :: ls) = c.parts ++ splice ls := by
  cases c <;> rfl

theorem mem_splice {x : SConn} : ∀ {ls : List SConn}, x ∈ splice ls ↔ ∃ y ∈ ls, x ∈ y.parts
  | [] => by simp [splice]
  | c :: ls => by rw [splice_cons, List.mem_append, mem_splice (ls := ls)]; simp

theorem consSlice_succ (fuel : Nat) (parent : SConn) (s : Inner) :
    consSlice (fuel + 1) parent s =
      (do let first ← listSlice fuel parent (.int s.first)
          let rest ← listSlice fuel parent s.tailIdx
          .ok (first ++ rest)) := by
  rw [consSlice]; unfold Inner.tailIdx Inner.tailStop Inner.first
  by_cases hs : s.step < 0
  · simp only [if_pos hs]
  · simp only [if_neg hs]

theorem resolveParts_cons (fuel : Nat) (p : SConn) (ps : List SConn) :
    resolveParts (fuel + 1) (p :: ps) =
      (do let r ← resolveSliceable fuel p
          let rest ← resolveParts fuel ps
          .ok (r.parts ++ rest)) := by
  rw [resolveParts]
  cases resolveSliceable fuel p with
  | error e => rfl
  | ok r => cases resolveParts fuel ps with
    | error e => rfl
    | ok rest => cases r <;> rfl

/-- `inner` is all `pw` bits, forwards: the test on which `_list_slice` hands back the parent itself -/
abbrev Inner.full (inner : Inner) (pw : Nat) : Prop := inner.step > 0 ∧ inner.width.toNat = pw

theorem resolve_induct
    {PL : SConn → Index → List SConn → Prop} {PC : SConn → Inner → List SConn → Prop}
    {PR : SConn → SConn → Prop} {PP : List SConn → List SConn → Prop}
    (whole : ∀ {parent idx pw inner r}, parent.width = .ok pw → sliceInner pw idx = .ok inner → inner.full pw →
      PR parent r → PL parent idx [r])
    (ofSig : ∀ {n w idx inner}, sliceInner w idx = .ok inner → ¬ inner.full w → PL (.sig n w) idx [.slice (.sig n w) idx])
    (bitOfSlice : ∀ {pp pidx idx pw inner ppw pin ls}, (SConn.slice pp pidx).width = .ok pw → sliceInner pw idx = .ok inner →
      inner.width = 1 → pp.width = .ok ppw → sliceInner ppw pidx = .ok pin →
      PL pp (.int (pin.bitAt inner.bot)) ls → PL (.slice pp pidx) idx ls)
    (bitOfConcat : ∀ {parts idx pw inner part off ls}, (SConn.concat parts).width = .ok pw → sliceInner pw idx = .ok inner →
      inner.width = 1 → findPart parts 0 inner.bot.toNat = .ok (part, off) →
      PL part (.int off) ls → PL (.concat parts) idx ls)
    (bits : ∀ {parent idx pw inner ls}, parent.width = .ok pw → sliceInner pw idx = .ok inner → ¬ inner.full pw →
      inner.width ≠ 1 → PC parent inner ls → PL parent idx ls)
    (cons : ∀ {parent inner first rest}, PL parent (.int inner.first) first → PL parent inner.tailIdx rest →
      PC parent inner (first ++ rest))
    (sig : ∀ {n w}, PR (.sig n w) (.sig n w))
    (sliceOne : ∀ {p idx x}, PL p idx [x] → PR (.slice p idx) x)
    (sliceMany : ∀ {p idx x y ls}, PL p idx (x :: y :: ls) → PR (.slice p idx) (.concat (splice (x :: y :: ls))))
    (concat : ∀ {ps rs}, ps ≠ [] → PP ps rs → PR (.concat ps) (.concat rs))
    (nil : PP [] [])
    (partsCons : ∀ {p ps r rest}, PR p r → PP ps rest → PP (p :: ps) (r.parts ++ rest)) :
    ∀ fuel,
      (∀ parent idx ls, listSlice fuel parent idx = .ok ls → PL parent idx ls) ∧
      (∀ parent inner ls, consSlice fuel parent inner = .ok ls → PC parent inner ls) ∧
      (∀ c r, resolveSliceable fuel c = .ok r → PR c r) ∧
      (∀ ps rs, resolveParts fuel ps = .ok rs → PP ps rs) := by
  intro fuel
  induction fuel with
  | zero =>
    refine ⟨fun _ _ _ h => ?_, fun _ _ _ h => ?_, fun _ _ h => ?_, fun _ _ h => ?_⟩
    · rw [listSlice] at h; cases h
    · rw [consSlice] at h; cases h
    · rw [resolveSliceable] at h; cases h
    · rw [resolveParts] at h; cases h
  | succ fuel ih =>
    obtain ⟨ihL, ihC, ihR, ihP⟩ := ih
    refine ⟨?_, ?_, ?_, ?_⟩
    · intro parent idx ls h
      obtain ⟨pw, hw, h⟩ := Except.bind_eq_ok.1 h
      obtain ⟨inner, hi, h⟩ := Except.bind_eq_ok.1 h
      split at h
      · rename_i hfull
        obtain ⟨r, hr, h⟩ := Except.bind_eq_ok.1 h
        cases h
        exact whole hw hi hfull (ihR _ _ hr)
      · rename_i hfull
        cases parent with
        | sig n w =>
          cases h
          cases hw
          exact ofSig hi hfull
        | slice pp pidx =>
          dsimp only at h
          split at h
          · rename_i h1
            obtain ⟨ppw, hppw, h⟩ := Except.bind_eq_ok.1 h
            obtain ⟨pin, hpin, h⟩ := Except.bind_eq_ok.1 h
            exact bitOfSlice hw hi h1 hppw hpin (ihL _ _ _ h)
          · rename_i h1
            exact bits hw hi hfull h1 (ihC _ _ _ h)
        | concat parts =>
          dsimp only at h
          split at h
          · rename_i h1
            obtain ⟨⟨part, off⟩, hf, h⟩ := Except.bind_eq_ok.1 h
            exact bitOfConcat hw hi h1 hf (ihL _ _ _ h)
          · rename_i h1
            exact bits hw hi hfull h1 (ihC _ _ _ h)
    · intro parent inner ls h
      rw [consSlice_succ] at h
      obtain ⟨first, hfirst, h⟩ := Except.bind_eq_ok.1 h
      obtain ⟨rest, hrest, h⟩ := Except.bind_eq_ok.1 h
      cases h
      exact cons (ihL _ _ _ hfirst) (ihL _ _ _ hrest)
    · intro c r h
      cases c with
      | sig n w => cases h; exact sig
      | slice p idx =>
        obtain ⟨ls, hl, h⟩ := Except.bind_eq_ok.1 h
        have hL := ihL _ _ _ hl
        match ls, h, hL with
        | [x], h, hL => cases h; exact sliceOne hL
        | x :: y :: ls, h, hL => cases h; exact sliceMany hL
      | concat ps =>
        rw [resolveSliceable] at h
        split at h
        · cases h
        · rename_i hne
          obtain ⟨rs, hrs, h⟩ := Except.bind_eq_ok.1 h
          cases h
          exact concat (by intro hnil; rw [hnil] at hne; exact hne rfl) (ihP _ _ hrs)
    · intro ps rs h
      cases ps with
      | nil => cases h; exact nil
      | cons p ps =>
        rw [resolveParts_cons] at h
        obtain ⟨r, hr, h⟩ := Except.bind_eq_ok.1 h
        obtain ⟨rest, hrest, h⟩ := Except.bind_eq_ok.1 h
        cases h
        exact partsCons (ihR _ _ hr) (ihP _ _ hrest)

end Hdl21
