/-
# `Pkg.lookup`: the first entry under a key
-/
import Hdl21Model.Pkg
import Hdl21Model.Lemmas.List
namespace Hdl21.Pkg

theorem lookup_eq_find? (k : String) (l : List (String × Nat)) : lookup k l = (l.find? (·.1 == k)).map (·.2) :=
  find?_fst_of_eqns rfl (fun _ _ _ => rfl) l

theorem lookup_eq_none_iff {k : String} {l : List (String × Nat)} : lookup k l = none ↔ k ∉ l.map (·.1) := by
  rw [lookup_eq_find?, find?_fst_eq_none_iff]

theorem lookup_isSome_iff {k : String} {l : List (String × Nat)} : (lookup k l).isSome = true ↔ k ∈ l.map (·.1) := by
  rw [← Decidable.not_iff_not, ← lookup_eq_none_iff, Option.not_isSome_iff_eq_none]

theorem mem_keys_of_lookup {k : String} {l : List (String × Nat)} {w : Nat} (h : lookup k l = some w) : k ∈ l.map (·.1) :=
  lookup_isSome_iff.mp (h ▸ rfl)

theorem mem_of_lookup {k : String} {l : List (String × Nat)} {w : Nat} (h : lookup k l = some w) : (k, w) ∈ l :=
  mem_of_find?_fst (lookup_eq_find? k l ▸ h)

theorem lookup_of_mem {l : List (String × Nat)} (hnd : (l.map (·.1)).Nodup) {k : String} {w : Nat} (h : (k, w) ∈ l) :
    lookup k l = some w :=
  (lookup_eq_find? k l).trans (find?_fst_of_mem hnd h)

theorem lookup_perm {l l' : List (String × Nat)} (hnd : (l.map (·.1)).Nodup) (hp : l.Perm l') (k : String) : lookup k l = lookup k l' := by
  cases h : lookup k l with
  | none => exact (lookup_eq_none_iff.mpr fun hk => lookup_eq_none_iff.mp h ((hp.map _).mem_iff.mpr hk)).symm
  | some w => exact (lookup_of_mem ((hp.map _).nodup_iff.mp hnd) (hp.subset (mem_of_lookup h))).symm

/-- an instance's target is looked up among the modules listed before it and the declared external modules: the package's own
    module list is not read -/
theorem targetPorts_exts_only (ms ms' : List PModule) (exts : List PExt) (earlier : List PModule) (r : PRef) :
    targetPorts ⟨ms, exts⟩ earlier r = targetPorts ⟨ms', exts⟩ earlier r := by
  cases r <;> rfl

theorem dups_nil_of_nodup (l : List String) (h : l.Nodup) : dups l = [] := by
  induction l with
  | nil => rfl
  | cons x xs ih =>
    rw [List.nodup_cons] at h
    rw [dups, if_neg (by simpa using h.1), ih h.2]

end Hdl21.Pkg
