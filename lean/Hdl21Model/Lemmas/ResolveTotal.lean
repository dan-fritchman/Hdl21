/-
# The SliceResolver always answers                                                                      — C03 (and C01, C02, C06)

`resolve_sound` / `resolve_flat` / `resolve_keeps` say that whatever `_resolve_sliceable` returns is right.  This file proves that
it *does* return: for every connectable that has a denotation (every index in range, every slice non-empty, at every depth) and
contains no empty concatenation, the resolver — given the fuel `needR c`, a number computed from the expression — answers.
The fuel argument of the model is thereby discharged: `needR` bounds the depth of the Python recursion.  Conversely
(`resolve_only_denoting`) it answers only for what has a width.
-/
import Hdl21Model.Lemmas.Resolve
namespace Hdl21

theorem wd_of_denote {c : SConn} {bs : List Bit} (h : c.denote = .ok bs) : c.wd = bs.length := by
  unfold SConn.wd; rw [denote_width c bs h]

theorem needP_pos (ps : List SConn) : 1 ≤ needP ps := by
  cases ps <;> rw [needP] <;> omega

theorem needR_pos : (c : SConn) → 1 ≤ needR c
  | .sig _ _ => by rw [needR]; omega
  | .slice p idx => by rw [needR]; have := needR_pos p; omega
  | .concat ps => by rw [needR]; omega

theorem needR_mem {ps : List SConn} {p : SConn} (hp : p ∈ ps) : needR p + 1 ≤ needP ps := by
  induction ps with
  | nil => cases hp
  | cons x xs ih =>
    rw [needP]
    rcases List.mem_cons.1 hp with rfl | hp
    · omega
    · have := ih hp; omega

theorem slice_bits_pos {p : SConn} {idx : Index} {bs : List Bit} (h : (SConn.slice p idx).denote = .ok bs) : 1 ≤ bs.length := by
  obtain ⟨pbs, inner, _, hi, hpick⟩ := denote_slice_ok_iff.1 h
  rw [pick_bits_length hpick]
  have := (sliceInner_wf hi).width_pos; omega

/-- With `fuel`, every call whose need is within it answers.  A slice of width `n` costs `needR parent + 2 * n`: each bit is one
    `consSlice` call and one `listSlice` call, then comes the call on the parent; hence `fuel + 1` where `listSlice` is entered
    and `fuel + 2` where `consSlice` is. -/
theorem resolve_total_aux (fuel : Nat) :
  (∀ parent idx bs, (SConn.slice parent idx).denote = .ok bs → parent.noEmpty = true → needR parent + 2 * bs.length ≤ fuel + 1 →
      ∃ ls, listSlice fuel parent idx = .ok ls) ∧
  (∀ parent inner pbs bs, parent.denote = .ok pbs → InnerWF pbs.length inner → 2 ≤ inner.width → pick pbs inner.bits = .ok bs →
      parent.noEmpty = true → needR parent + 2 * bs.length ≤ fuel + 2 → ∃ ls, consSlice fuel parent inner = .ok ls) ∧
  (∀ c bs, c.denote = .ok bs → c.noEmpty = true → needR c ≤ fuel → ∃ r, resolveSliceable fuel c = .ok r) ∧
  (∀ ps bs, denoteList ps = .ok bs → noEmptyList ps = true → needP ps ≤ fuel → ∃ rs, resolveParts fuel ps = .ok rs) := by
  induction fuel with
  | zero =>
    refine ⟨?_, ?_, ?_, ?_⟩
    · intro parent idx bs hd _ hn
      have := slice_bits_pos hd; omega
    · intro parent inner pbs bs _ wf h2 hpick _ hn
      have := pick_bits_length hpick; omega
    · intro c bs _ _ hn; have := needR_pos c; omega
    · intro ps bs _ _ hn; have := needP_pos ps; omega
  | succ fuel ih =>
    obtain ⟨ihL, ihC, ihR, ihP⟩ := ih
    refine ⟨?_, ?_, ?_, ?_⟩
    · intro parent idx bs hd hne hn
      obtain ⟨pbs, inner, hpd, hi, hpick⟩ := denote_slice_ok_iff.1 hd
      have wf := sliceInner_wf hi
      have hb1 := slice_bits_pos hd
      rw [listSlice, denote_width parent pbs hpd, Except.ok_bind, hi, Except.ok_bind]
      by_cases hfull : inner.step > 0 ∧ inner.width.toNat = pbs.length
      · rw [if_pos hfull]
        obtain ⟨r, hr⟩ := ihR parent pbs hpd hne (by omega)
        exact ⟨[r], by rw [hr]; rfl⟩
      · rw [if_neg hfull]
        cases parent with
        | sig n w => exact ⟨_, rfl⟩
        | slice pp pidx =>
          dsimp only
          by_cases h1 : inner.width = 1
          · -- one bit: the call goes to the grand-parent, whose need is smaller by twice this slice's width
            rw [if_pos h1]
            obtain ⟨ppbs, pin, hppd, hpin, _⟩ := denote_slice_ok_iff.1 hpd
            have hppw := denote_width pp ppbs hppd
            rw [hppw, Except.ok_bind, hpin, Except.ok_bind]
            obtain ⟨b, rfl, hb⟩ := pick_one wf h1 hpick
            have hsl := slice_slice_bit hpd hppw hpin hb
            rw [Int.toNat_of_nonneg wf.bounds.1] at hsl
            have hpos : 1 ≤ pbs.length := slice_bits_pos hpd
            refine ihL pp _ [b] hsl (by rw [SConn.noEmpty] at hne; exact hne) ?_
            rw [needR, wd_of_denote hpd] at hn
            omega
          · rw [if_neg h1]
            exact ihC (.slice pp pidx) inner pbs bs hpd wf (by have := wf.width_pos; omega) hpick hne hn
        | concat parts =>
          dsimp only
          by_cases h1 : inner.width = 1
          · rw [if_pos h1]
            obtain ⟨b, rfl, hb⟩ := pick_one wf h1 hpick
            obtain ⟨part, off, hf, hmem, hbit⟩ := findPart_bit hpd hb
            rw [hf]
            rw [SConn.noEmpty, Bool.and_eq_true] at hne
            refine ihL part _ [b] hbit ((noEmptyList_iff _).1 hne.2 part hmem) ?_
            have := needR_mem hmem
            rw [needR] at hn
            omega
          · rw [if_neg h1]
            exact ihC (.concat parts) inner pbs bs hpd wf (by have := wf.width_pos; omega) hpick hne hn
    · -- first bit (needs 2 less than the whole), then the rest (one bit shorter)
      intro parent inner pbs bs hpd wf h2 hpick hne hn
      obtain ⟨s', hs', hbits⟩ := tail_spec wf h2
      have hlen := pick_bits_length hpick
      rw [hbits] at hpick
      obtain ⟨b, r', _, hb, hr', rfl⟩ := pick_cons_spec hpick
      rw [List.length_cons] at hn hlen
      obtain ⟨first, hfirst⟩ := ihL parent _ [b] (slice_int_denote parent pbs _ b hpd wf.first_ge hb) hne
        (by simp only [List.length_singleton]; omega)
      obtain ⟨rest, hrest⟩ := ihL parent _ r' (denote_slice_ok_iff.2 ⟨_, _, hpd, hs', hr'⟩) hne (by omega)
      exact ⟨first ++ rest, by rw [consSlice_succ, hfirst, hrest]; rfl⟩
    · intro c bs hd hne hn
      cases c with
      | sig n w => exact ⟨_, rfl⟩
      | slice p idx =>
        rw [resolveSliceable]
        obtain ⟨ls, hl⟩ := ihL p idx bs hd (by rw [SConn.noEmpty] at hne; exact hne) (by rw [needR, wd_of_denote hd] at hn; omega)
        rw [hl]
        -- what came back denotes `bs`, which is not empty
        have hden := (resolve_sound fuel).1 p idx ls hl bs hd
        match ls, hden with
        | [], hden => cases hden; exact absurd (slice_bits_pos hd) (by simp)
        | [x], _ => exact ⟨x, rfl⟩
        | x :: y :: rest, _ => exact ⟨_, rfl⟩
      | concat ps =>
        rw [SConn.noEmpty, Bool.and_eq_true, Bool.not_eq_true'] at hne
        obtain ⟨rs, hrs⟩ := ihP ps bs hd hne.2 (by rw [needR] at hn; omega)
        exact ⟨.concat rs, by rw [resolveSliceable, if_neg (by rw [hne.1]; exact Bool.false_ne_true), hrs]; rfl⟩
    · intro ps bs hd hne hn
      cases ps with
      | nil => exact ⟨[], rfl⟩
      | cons p ps =>
        obtain ⟨a, b, hp, hps, _⟩ := denoteList_cons_ok_iff.1 hd
        rw [noEmptyList, Bool.and_eq_true] at hne
        rw [needP] at hn
        obtain ⟨r, hr⟩ := ihR p a hp hne.1 (by omega)
        obtain ⟨rest, hrest⟩ := ihP ps b hps hne.2 (by omega)
        exact ⟨r.parts ++ rest, by rw [resolveParts_cons, hr, hrest]; rfl⟩

def ResolveOnlyDenoting (fuel : Nat) : Prop :=
  (∀ c r, resolveSliceable fuel c = .ok r → ∃ w, c.width = .ok w) ∧
  (∀ ps rs, resolveParts fuel ps = .ok rs → ∃ w, widthList ps = .ok w)

/-- every path of `_list_slice` has first asked for the parent's width and the index inside it -/
theorem resolve_only_denoting : ∀ fuel, ResolveOnlyDenoting fuel := fun fuel =>
  (resolve_induct (PL := fun p idx _ => ∃ w, (SConn.slice p idx).width = .ok w) (PC := fun _ _ _ => True)
    (whole := fun hw hi _ _ => ⟨_, width_slice hw hi⟩)
    (ofSig := fun hi _ => ⟨_, width_slice (width_sig _ _) hi⟩)
    (bitOfSlice := fun hw hi _ _ _ _ => ⟨_, width_slice hw hi⟩)
    (bitOfConcat := fun hw hi _ _ _ => ⟨_, width_slice hw hi⟩)
    (bits := fun hw hi _ _ _ => ⟨_, width_slice hw hi⟩)
    (cons := fun _ _ => trivial)
    (sig := ⟨_, width_sig _ _⟩)
    (sliceOne := id)
    (sliceMany := id)
    (concat := fun _ ⟨w, hw⟩ => ⟨w, by rw [width_concat]; exact hw⟩)
    (nil := ⟨0, widthList_nil⟩)
    (partsCons := fun ⟨a, ha⟩ ⟨b, hb⟩ => ⟨a + b, by rw [widthList, ha, hb]; rfl⟩) fuel).2.2

theorem resolveSliceable_width {fuel : Nat} {c r : SConn} (h : resolveSliceable fuel c = .ok r) : ∃ w, c.width = .ok w :=
  (resolve_only_denoting fuel).1 c r h

end Hdl21
