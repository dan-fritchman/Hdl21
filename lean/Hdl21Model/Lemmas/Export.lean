/-
# Reading back what `export_connection_target` wrote                                                      — C01, C06 (C03)

`export_read`: the positional reading of an exported target is the bit list the connectable denotes.
`exportTarget_slice_ok_iff` reads `export_slice` backwards.
-/
import Hdl21Model.Export
import Hdl21Model.Lemmas.Resolve
namespace Hdl21
open Hdl21.Pkg

/-- a denoted bit as the package reads it: positions are naturals there -/
def bitNat (b : Bit) : String × Nat := (b.1, b.2.toNat)

theorem readParts_snoc (ws : List (String × Nat)) (xs : List PTarget) (y : PTarget) :
    readParts ws (xs ++ [y]) = readTarget ws y ++ readParts ws xs := by
  induction xs with
  | nil => simp [readParts]
  | cons x xs ih => rw [List.cons_append, readParts, ih, readParts]; simp

theorem pick_allBits (n : String) (w : Nat) (ks : List Int) (bs : List Bit) (h : pick (allBits n w) ks = .ok bs) :
    bs = ks.map (fun k => (n, k)) := by
  rw [← List.map_id bs]
  refine (pick_ok_iff.1 h).map_eq ?_
  rintro k b ⟨h0, hb⟩
  unfold allBits at hb
  rw [List.getElem?_map] at hb
  obtain ⟨j, hj, rfl⟩ := Option.map_eq_some_iff.1 hb
  obtain ⟨_, rfl⟩ := List.getElem?_eq_some_iff.1 hj
  rw [List.getElem_range, Int.toNat_of_nonneg h0]; rfl

/-- What `export_slice` writes: only unit-step slices, as the inclusive `top-1` down to `bot`. -/
theorem exportTarget_slice_ok_iff {n : String} {w : Nat} {idx : Index} {t : PTarget} :
    exportTarget (.slice (.sig n w) idx) = .ok t ↔
      ∃ inner, sliceInner w idx = .ok inner ∧ inner.step = 1 ∧ t = .slice n (inner.top - 1).toNat inner.bot.toNat := by
  rw [exportTarget]
  simp only [Except.bind_eq_ok]
  constructor
  · rintro ⟨inner, hi, h⟩
    split at h
    · cases h
    · rename_i hstep
      exact ⟨inner, hi, Decidable.not_not.1 hstep, (Except.ok.inj h).symm⟩
  · rintro ⟨inner, hi, hstep, rfl⟩
    exact ⟨inner, hi, by rw [if_neg (not_not_intro hstep)]⟩

theorem exportTarget_slice_inrange {n : String} {w : Nat} {idx : Index} {t : PTarget}
    (h : exportTarget (.slice (.sig n w) idx) = .ok t) : ∃ top bot, t = .slice n top bot ∧ bot ≤ top ∧ top < w := by
  obtain ⟨inner, hi, h1, rfl⟩ := exportTarget_slice_ok_iff.1 h
  obtain ⟨lo, m, rfl, hlt⟩ := (sliceInner_wf hi).unit_run h1
  refine ⟨_, _, rfl, ?_⟩
  show lo ≤ (((lo + m : Nat) : Int) + 1 - 1).toNat ∧ _
  rw [Int.add_sub_cancel]
  exact ⟨Nat.le_add_right lo m, hlt⟩

theorem exportTarget_concat_ok_iff {ps : List SConn} {t : PTarget} :
    exportTarget (.concat ps) = .ok t ↔ ∃ ts, exportParts ps = .ok ts ∧ .concat ts = t := by
  rw [exportTarget]
  simp only [Except.bind_eq_ok, Except.ok.injEq]

theorem exportParts_cons_ok_iff {p : SConn} {ps : List SConn} {ts : List PTarget} :
    exportParts (p :: ps) = .ok ts ↔ ∃ t, exportTarget p = .ok t ∧ ∃ ts', exportParts ps = .ok ts' ∧ ts' ++ [t] = ts := by
  rw [exportParts]
  simp only [Except.bind_eq_ok, Except.ok.injEq]

theorem exportParts_snoc {xs : List SConn} {y : SConn} {ts : List PTarget} {t : PTarget}
    (hx : exportParts xs = .ok ts) (hy : exportTarget y = .ok t) : exportParts (xs ++ [y]) = .ok (t :: ts) := by
  induction xs generalizing ts with
  | nil =>
    rw [exportParts] at hx; cases hx
    exact exportParts_cons_ok_iff.2 ⟨t, hy, [], by rw [exportParts], rfl⟩
  | cons x xs ih =>
    obtain ⟨tx, hxt, txs, hxs, rfl⟩ := exportParts_cons_ok_iff.1 hx
    exact exportParts_cons_ok_iff.2 ⟨tx, hxt, _, ih hxs, rfl⟩

mutual
/-- **Reading what was exported gives the denoted bits**: the positional, most-significant-first
    reading of an exported connection target (reversed to LSB-first) is the bit list the connectable
    denotes — including the inclusive `top` of slices and the order of concatenation parts. -/
theorem export_read (ws : List (String × Nat)) : (c : SConn) → ∀ t bs, sigsOK ws c = true →
    exportTarget c = .ok t → c.denote = .ok bs → readTarget ws t = bs.map bitNat
  | .sig n w, t, bs, hok, he, hd => by
    cases he; cases hd
    rw [sigsOK] at hok
    have hl : lookup n ws = some w := by simpa using hok
    rw [readTarget, hl]
    simp [allBits, bitNat]
  | .slice (.sig n w) idx, t, bs, hok, he, hd => by
    obtain ⟨inner, hi, h1, rfl⟩ := exportTarget_slice_ok_iff.1 he
    obtain ⟨pbs, inner', hpd, hi', hpick⟩ := denote_slice_ok_iff.1 hd
    cases hpd
    rw [allBits_length, hi] at hi'; cases hi'
    obtain ⟨lo, m, rfl, _⟩ := (sliceInner_wf hi).unit_run h1
    rw [pick_allBits n w _ bs hpick, readTarget]
    show (List.range ((((lo + m : Nat) : Int) + 1 - 1).toNat + 1 - lo)).map _ = ((arith (lo : Nat) 1 (m + 1)).map _).map bitNat
    rw [Int.add_sub_cancel, Int.toNat_natCast, Int.toNat_natCast, Nat.add_assoc, Nat.add_sub_cancel_left, arith, List.map_map,
      List.map_map]
    exact List.map_congr_left fun i _ => congrArg (Prod.mk n)
      (by show lo + i = ((lo : Int) + (i : Int) * 1).toNat; rw [Int.mul_one, ← Int.natCast_add, Int.toNat_natCast])
  | .slice (.slice _ _) _, t, bs, _, he, _ => by rw [exportTarget] at he; cases he
  | .slice (.concat _) _, t, bs, _, he, _ => by rw [exportTarget] at he; cases he
  | .concat ps, t, bs, hok, he, hd => by
    obtain ⟨ts, hp, rfl⟩ := exportTarget_concat_ok_iff.1 he
    exact export_read_parts ws ps ts bs hok hp hd
theorem export_read_parts (ws : List (String × Nat)) : (ps : List SConn) → ∀ ts bs, sigsOKList ws ps = true →
    exportParts ps = .ok ts → denoteList ps = .ok bs → readParts ws ts = bs.map bitNat
  | [], ts, bs, _, he, hd => by
    cases he; cases hd
    simp [readParts]
  | p :: ps, ts, bs, hok, he, hd => by
    obtain ⟨t, ht, ts', hts, rfl⟩ := exportParts_cons_ok_iff.1 he
    obtain ⟨a, b, hpd, hpsd, rfl⟩ := denoteList_cons_ok_iff.1 hd
    rw [sigsOKList, Bool.and_eq_true] at hok
    rw [readParts_snoc, export_read ws p t a hok.1 ht hpd, export_read_parts ws ps ts' b hok.2 hts hpsd, List.map_append]
end

theorem sigsOKList_iff (ws : List (String × Nat)) (ps : List SConn) : sigsOKList ws ps = true ↔ ∀ x ∈ ps, sigsOK ws x = true :=
  all_of_eqns rfl (fun _ _ => rfl) ps

theorem resolve_sigsOK {ws : List (String × Nat)} {fuel : Nat} {c r : SConn} (hr : resolveSliceable fuel c = .ok r)
    (hok : sigsOK ws c = true) : sigsOK ws r = true :=
  resolveSliceable_keeps (P := fun c => sigsOK ws c = true)
    ⟨fun p idx => by rw [sigsOK], fun ps => by rw [sigsOK, sigsOKList_iff]⟩ hr hok

theorem read_resolved {ws : List (String × Nat)} {fuel : Nat} {c r : SConn} {t : PTarget} {bs : List Bit} (hok : sigsOK ws c = true)
    (hr : resolveSliceable fuel c = .ok r) (he : exportTarget r = .ok t) (hd : c.denote = .ok bs) : readTarget ws t = bs.map bitNat :=
  export_read ws r t bs (resolve_sigsOK hr hok) he (resolveSliceable_sound hr hd)

theorem resolve_width {fuel : Nat} {c r : SConn} {w : Nat} (hr : resolveSliceable fuel c = .ok r) (hw : c.width = .ok w) :
    r.width = .ok w := by
  obtain ⟨bs, hd, hl⟩ := width_denote hw
  rw [denote_width r bs (resolveSliceable_sound hr hd), hl]

end Hdl21
