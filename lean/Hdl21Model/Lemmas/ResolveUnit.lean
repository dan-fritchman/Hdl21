/-
# Unit-step expressions stay unit-step through the SliceResolver, and are exported                          — C03 (C02, C06)

The exporter refuses one thing the resolver hands it: a stepped slice taken directly from a Signal (VLSIR slices have no step).
For an expression whose every index is an integer or a unit-step range — what the property demands be accepted — the resolver
only ever makes unit-step slices (`resolve_unit`), so the exporter accepts what it returns (`export_total`).
-/
import Hdl21Model.Lemmas.Export
namespace Hdl21

theorem unit_slice (p : SConn) (idx : Index) : (SConn.slice p idx).unit = true ↔ p.unit = true ∧ idx.unit = true := by
  rw [SConn.unit]; simp

theorem sliceInner_unit_step {w : Nat} {idx : Index} {inner : Inner} (hu : idx.unit = true) (h : sliceInner w idx = .ok inner) :
    inner.step = 1 := by
  cases idx with
  | int i =>
    obtain ⟨_, rfl⟩ := sliceInner_int_ok_iff.1 h
    rfl
  | range a b st =>
    -- the step of the result is the step of the subscript, here absent or 1
    rw [sliceInner_range_step h]
    simp only [Index.unit, Bool.or_eq_true, beq_iff_eq] at hu
    rcases hu with hu | hu <;> rw [hu] <;> rfl

def ResolveUnit (fuel : Nat) : Prop :=
  (∀ parent idx ls, listSlice fuel parent idx = .ok ls → parent.unit = true → idx.unit = true → ∀ x ∈ ls, x.unit = true) ∧
  (∀ parent inner ls, consSlice fuel parent inner = .ok ls → parent.unit = true → inner.step = 1 → ∀ x ∈ ls, x.unit = true) ∧
  (∀ c r, resolveSliceable fuel c = .ok r → c.unit = true → r.unit = true) ∧
  (∀ ps rs, resolveParts fuel ps = .ok rs → (∀ x ∈ ps, x.unit = true) → ∀ x ∈ rs, x.unit = true)

theorem resolve_unit : ∀ fuel, ResolveUnit fuel :=
  resolve_induct
    (whole := fun _ _ _ ihr hP _ => List.forall_mem_singleton.2 (ihr hP))
    (ofSig := fun _ _ hP hI => List.forall_mem_singleton.2 ((unit_slice _ _).2 ⟨hP, hI⟩))
    (bitOfSlice := fun _ _ _ _ _ ih hP _ => ih ((unit_slice _ _).1 hP).1 rfl)
    (bitOfConcat := fun _ _ _ hf ih hP _ => ih ((unitList_iff _).1 hP _ (findPart_mem hf)) rfl)
    (bits := fun _ hi _ _ ih hP hI => ih hP (sliceInner_unit_step hI hi))
    -- the rest after the first bit is cut with the same step, so it is a unit-step range again
    (cons := fun ih1 ih2 hP hstep => List.forall_mem_append.2 ⟨ih1 hP rfl, ih2 hP (by simp [Inner.tailIdx, Index.unit, hstep])⟩)
    (sig := id)
    (sliceOne := fun ih hP => ih ((unit_slice _ _).1 hP).1 ((unit_slice _ _).1 hP).2 _ (List.mem_singleton_self _))
    (sliceMany := fun ih hP => (unitList_iff _).2
      (splice_all (fun ps => (unitList_iff ps).1) (ih ((unit_slice _ _).1 hP).1 ((unit_slice _ _).1 hP).2)))
    (concat := fun _ ih hP => (unitList_iff _).2 (ih ((unitList_iff _).1 hP)))
    (nil := fun _ _ h => nomatch h)
    (partsCons := fun ihr ihp hP => List.forall_mem_append.2 ⟨parts_all (fun ps => (unitList_iff ps).1) (ihr (hP _ List.mem_cons_self)),
      ihp fun x hx => hP x (List.mem_cons_of_mem _ hx)⟩)

theorem resolveSliceable_unit {fuel : Nat} {c r : SConn} (h : resolveSliceable fuel c = .ok r) (hu : c.unit = true) :
    r.unit = true :=
  (resolve_unit fuel).2.2.1 c r h hu

mutual
theorem export_total : (r : SConn) → r.exportable = true → r.unit = true → (∃ bs, r.denote = .ok bs) → ∃ t, exportTarget r = .ok t
  | .sig n w, _, _, _ => ⟨_, rfl⟩
  | .slice (.sig n w) idx, _, hu, ⟨bs, hd⟩ => by
    obtain ⟨pbs, inner, hpd, hi, _⟩ := denote_slice_ok_iff.1 hd
    cases hpd
    rw [allBits_length] at hi
    have hstep := sliceInner_unit_step ((unit_slice _ _).1 hu).2 hi
    exact ⟨_, exportTarget_slice_ok_iff.2 ⟨inner, hi, hstep, rfl⟩⟩
  | .slice (.slice _ _) _, he, _, _ => by simp [SConn.exportable] at he
  | .slice (.concat _) _, he, _, _ => by simp [SConn.exportable] at he
  | .concat ps, he, hu, ⟨bs, hd⟩ => by
    obtain ⟨ts, hts⟩ := export_total_parts ps ((exportableList_iff ps).1 he) ((unitList_iff ps).1 hu) ⟨bs, hd⟩
    exact ⟨_, exportTarget_concat_ok_iff.2 ⟨ts, hts, rfl⟩⟩
theorem export_total_parts : (ps : List SConn) → (∀ x ∈ ps, x.exportable = true) → (∀ x ∈ ps, x.unit = true) →
    (∃ bs, denoteList ps = .ok bs) → ∃ ts, exportParts ps = .ok ts
  | [], _, _, _ => ⟨[], rfl⟩
  | p :: ps, he, hu, ⟨bs, hd⟩ => by
    obtain ⟨a, b, hp, hps, _⟩ := denoteList_cons_ok_iff.1 hd
    obtain ⟨t, ht⟩ := export_total p (he p List.mem_cons_self) (hu p List.mem_cons_self) ⟨a, hp⟩
    obtain ⟨ts, hts⟩ := export_total_parts ps (fun x hx => he x (List.mem_cons_of_mem _ hx))
      (fun x hx => hu x (List.mem_cons_of_mem _ hx)) ⟨b, hps⟩
    exact ⟨ts ++ [t], exportParts_cons_ok_iff.2 ⟨t, ht, ts, hts, rfl⟩⟩
end

end Hdl21
