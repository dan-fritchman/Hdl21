/-
`connect` (BundleConn.lean) read backwards (`connect_ok_iff`); member lookup is the shared association-list lookup, member names being
dictionary keys; `scopeOf_at`: the scope of a bundle instance holds, at every leaf path of its type, the signal named after instance
and path.
-/
import Hdl21Model.BundleConn
import Hdl21Model.Lemmas.Bundles
import Hdl21Model.Lemmas.List
import Hdl21Model.Lemmas.MapM
namespace Hdl21.BundleConn
open Hdl21.Bundles
open Hdl21.ModulePipe (All2)

theorem Scope.at_append (s : Scope) (p q : List String) (s' : Scope) (h : s.at p = some s') : s.at (p ++ q) = s'.at q := by
  induction p generalizing s with
  | nil => simp only [Scope.at, Option.some.injEq] at h; subst h; rfl
  | cons k rest ih =>
    cases s with
    | leaf _ => simp [Scope.at] at h
    | node ms =>
      simp only [Scope.at, List.cons_append] at h ⊢
      cases hl : lookupMember k ms with
      | none => simp [hl] at h
      | some s1 =>
        simp only [hl] at h ⊢
        exact ih s1 h

theorem resolveFields_eq_mapM (nm : String → List String → String) (env : Env) (fs : List (String × BConn)) :
    resolveFields nm env fs = List.mapM (fun fc => (fun s => (fc.1, s)) <$> resolve nm env fc.2) fs := by
  induction fs with
  | nil => rfl
  | cons fc rest ih =>
    rw [resolveFields, List.mapM_cons, ih]
    cases resolve nm env fc.2 <;> cases (List.mapM _ rest : Except _ _) <;> rfl

theorem resolveFields_lookup (nm : String → List String → String) (env : Env) (fs : List (String × BConn))
    (ms : List (String × Scope)) (h : resolveFields nm env fs = .ok ms) (f : String) (c : BConn) :
    (fs.find? (fun x => x.1 = f)) = some (f, c) → ∃ s, resolve nm env c = .ok s ∧ lookupMember f ms = some s := by
  simp only [resolveFields_eq_mapM, mapM_ok_iff, map_snd_ok_iff] at h
  -- the first field named `f` and the first member named `f` stand at the same place
  induction h with
  | nil => exact nofun
  | @cons fc me _ _ hr _ ih =>
    obtain ⟨n, s⟩ := me
    obtain ⟨rfl, hs⟩ : n = fc.1 ∧ _ := hr
    rw [List.find?_cons, lookupMember]
    by_cases hg : fc.1 = f
    · rw [decide_eq_true hg, if_pos hg]
      rintro ⟨⟩
      exact ⟨s, hs, rfl⟩
    · rwa [decide_eq_false hg, if_neg hg]

theorem connect_ok_iff {port : String} {s : Scope} {paths : List (List String)} {cs : List (String × SConn)} :
    connect port paths s = .ok cs ↔ All2 (fun π pc => pc.1 = flatName port π ∧ s.at π = some (.leaf pc.2)) paths cs := by
  induction paths generalizing cs with
  | nil => exact ⟨fun h => by cases h; exact .nil, fun h => by cases h; rfl⟩
  | cons π rest ih =>
    rw [connect]
    constructor
    · intro h
      split at h
      · rename_i c ha
        split at h <;> cases h
        rename_i cs' hr
        exact .cons ⟨rfl, ha⟩ (ih.mp hr)
      · cases h
    · intro h
      cases h with
      | @cons _ pc _ cs' hpc ht =>
        obtain ⟨n, c⟩ := pc
        obtain ⟨rfl, ha⟩ : n = _ ∧ _ := hpc
        simp only [ha, ih.mpr ht]

theorem connect_spec (port : String) (s : Scope) (paths : List (List String)) (cs : List (String × SConn))
    (h : connect port paths s = .ok cs) :
    cs.map (·.1) = paths.map (flatName port) ∧
      ∀ k (hk : k < paths.length), ∃ c, s.at paths[k] = some (.leaf c) ∧ cs[k]? = some (flatName port paths[k], c) := by
  have h := connect_ok_iff.mp h
  refine ⟨h.map_eq fun _ _ hpc => hpc.1, fun k hk => ?_⟩
  obtain ⟨pc, hpc, hn, ha⟩ := h.getElem?.2 k _ (List.getElem?_eq_getElem hk)
  exact ⟨pc.2, ha, by rw [hpc, ← hn]⟩

theorem connect_refuses (port : String) (s : Scope) (paths : List (List String)) (π : List String) (hm : π ∈ paths)
    (hno : ∀ c, s.at π ≠ some (.leaf c)) : ∃ e, connect port paths s = .error e := by
  cases h : connect port paths s with
  | error e => exact ⟨e, rfl⟩
  | ok cs =>
    obtain ⟨pc, _, _, hc⟩ := (connect_ok_iff.mp h).mem_left hm
    exact absurd hc (hno pc.2)

theorem connect_eq_ok_map (port : String) {s : Scope} (g : Flat → SConn) {fs : List Flat}
    (h : ∀ f ∈ fs, s.at f.path = some (.leaf (g f))) :
    connect port (fs.map (·.path)) s = .ok (fs.map (fun f => (flatName port f.path, g f))) :=
  connect_ok_iff.mpr (.map_map fun f hf => ⟨rfl, h f hf⟩)

mutual
/-- member names are dictionary keys: distinct within one definition, at every level -/
inductive WFT : BTree → Prop
  | node (sigs subs) : (sigs.map (·.name) ++ subs.map (·.1)).Nodup → WFSubsT subs → WFT (.node sigs subs)
inductive WFSubsT : List (String × Bool × Option String × BTree) → Prop
  | nil : WFSubsT []
  | cons (n f r t rest) : WFT t → WFSubsT rest → WFSubsT ((n, f, r, t) :: rest)
end

theorem lookupMember_eq_find? (k : String) (ms : List (String × Scope)) :
    lookupMember k ms = (ms.find? (·.1 == k)).map (·.2) :=
  find?_fst_of_eqns rfl (fun _ _ _ => rfl) ms

theorem mem_of_lookupMember {k : String} {ms : List (String × Scope)} {x : Scope} (h : lookupMember k ms = some x) : (k, x) ∈ ms :=
  mem_of_find?_fst ((lookupMember_eq_find? k ms).symm.trans h)

theorem lookupMember_of_mem {k : String} {ms : List (String × Scope)} {x : Scope} (hn : (ms.map (·.1)).Nodup) (h : (k, x) ∈ ms) :
    lookupMember k ms = some x :=
  (lookupMember_eq_find? k ms).trans (find?_fst_of_mem hn h)

theorem scopeSubs_names (nm : String → List String → String) (b : String) (pre : List String) :
    ∀ subs : List (String × Bool × Option String × BTree), (scopeSubs nm b pre subs).map (·.1) = subs.map (·.1)
  | [] => rfl
  | (n, _, _, t) :: rest => by simp [scopeSubs, scopeSubs_names nm b pre rest]

mutual
/-- `flatten` with `isPort = false` is how `reconnect` calls it, and paths and widths are the same either way; `fl` and `r` are free
    because `flatten` changes both on the way into a sub-bundle. -/
theorem scopeOf_at (nm : String → List String → String) (b : String) :
    (t : BTree) → WFT t → ∀ (pre : List String) (fl : Bool) (r : Option String) (f : Flat), f ∈ flatten false fl r t →
      (scopeOf nm b pre t).at f.path = some (.leaf (.sig (nm b (pre ++ f.path)) f.width))
  | .node sigs subs, hwf, pre, fl, r, f, hf => by
    cases hwf with
    | node _ _ hnd hsubs =>
    rw [scopeOf]
    -- member names are distinct, so a member that is there is the one found
    have hkeys : ((sigs.map (fun l => (l.name, Scope.leaf (.sig (nm b (pre ++ [l.name])) l.width))) ++
        scopeSubs nm b pre subs).map (·.1)).Nodup := by
      rw [List.map_append, List.map_map, scopeSubs_names]
      exact hnd
    rcases List.mem_append.mp hf with h1 | h2
    · obtain ⟨l, hl, rfl⟩ := List.mem_map.mp h1
      simp only [leafOut, Bool.false_eq_true, if_false, Scope.at]
      rw [lookupMember_of_mem hkeys (List.mem_append_left _ (List.mem_map.mpr ⟨l, hl, rfl⟩))]
    · obtain ⟨m, _, q, hq⟩ := flattenSubs_path_head false fl subs f h2
      have := scopeSubs_at nm b subs hsubs (List.nodup_append.mp hnd).2.1 pre fl f h2
      rw [hq] at this ⊢
      simp only [Scope.at] at this ⊢
      cases hl : lookupMember m (scopeSubs nm b pre subs) with
      | none => rw [hl] at this; cases this
      | some x =>
        rw [hl] at this
        rw [lookupMember_of_mem hkeys (List.mem_append_right _ (mem_of_lookupMember hl))]
        exact this

theorem scopeSubs_at (nm : String → List String → String) (b : String) :
    (subs : List (String × Bool × Option String × BTree)) → WFSubsT subs → (subs.map (·.1)).Nodup →
      ∀ (pre : List String) (fl : Bool) (f : Flat), f ∈ flattenSubs false fl subs →
        (Scope.node (scopeSubs nm b pre subs)).at f.path = some (.leaf (.sig (nm b (pre ++ f.path)) f.width))
  | [], _, _, _, _, f, hf => by simp [flattenSubs] at hf
  | (n, fl', r, t) :: rest, hwf, hnd, pre, fl, f, hf => by
    cases hwf with
    | cons _ _ _ _ _ ht hrest =>
    simp only [List.map_cons, List.nodup_cons] at hnd
    rcases List.mem_append.mp hf with h1 | h2
    · obtain ⟨y, hy, rfl⟩ := List.mem_map.mp h1
      simp only [scopeSubs, Scope.at, lookupMember, if_true]
      rw [scopeOf_at nm b t ht (pre ++ [n]) (if fl' then !fl else fl) r y hy]
      simp
    · obtain ⟨m, hm, q, hq⟩ := flattenSubs_path_head false fl rest f h2
      have hne : ¬ n = m := fun e => hnd.1 (e ▸ hm)
      have ih := scopeSubs_at nm b rest hrest hnd.2 pre fl f h2
      rw [hq] at ih ⊢
      simpa only [scopeSubs, Scope.at, lookupMember, hne, if_false] using ih
end

end Hdl21.BundleConn
