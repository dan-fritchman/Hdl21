/-
# `ArrayFlattener`, element by element                                                                      — C01, C02

The pass is two nested `mapM`s (elements, then connections); `elem_sig_spec` says what one element gets for one connection, and
`elem_sig_total_iff` that whether it gets anything does not depend on the element.
-/
import Hdl21Model.ArrayPass
import Hdl21Model.Lemmas.MapM
namespace Hdl21.ArrayPass
open Hdl21.ModulePipe (All2)

/-- `pe` is what element `k` gets for the array's connection `pc`: same port, the connection through `elem` -/
def Rel (ports : List (String × Port)) (n k : Nat) (pc : String × AConn) (pe : String × AElem) : Prop :=
  pe.1 = pc.1 ∧ elem ports n k pc.1 pc.2 = .ok pe.2

theorem elemConns_eq_mapM (ports : List (String × Port)) (n k : Nat) (conns : List (String × AConn)) :
    elemConns ports n k conns = List.mapM (fun pc => (fun e => (pc.1, e)) <$> elem ports n k pc.1 pc.2) conns := by
  induction conns with
  | nil => rfl
  | cons pc rest ih =>
    rw [elemConns, List.mapM_cons, ih]
    cases elem ports n k pc.1 pc.2 <;> cases (List.mapM _ rest : Except _ _) <;> rfl

theorem elements_eq_mapM (ports : List (String × Port)) (n : Nat) (conns : List (String × AConn)) (l : List Nat) :
    elements ports n conns l = List.mapM (fun k => elemConns ports n k conns) l := by
  induction l with
  | nil => rfl
  | cons k rest ih =>
    rw [elements, List.mapM_cons, ih]
    cases elemConns ports n k conns <;> cases (List.mapM _ rest : Except _ _) <;> rfl

theorem elemConns_ok_iff {ports : List (String × Port)} {n k : Nat} {conns : List (String × AConn)} {es : List (String × AElem)} :
    elemConns ports n k conns = .ok es ↔ All2 (Rel ports n k) conns es := by
  simp only [elemConns_eq_mapM, mapM_ok_iff, map_snd_ok_iff]; rfl

theorem elements_ok_iff {ports : List (String × Port)} {n : Nat} {conns : List (String × AConn)} {l : List Nat}
    {r : List (List (String × AElem))} :
    elements ports n conns l = .ok r ↔ All2 (fun k es => elemConns ports n k conns = .ok es) l r := by
  rw [elements_eq_mapM, mapM_ok_iff]

theorem expand_ok_iff {ports : List (String × Port)} {n : Nat} {conns : List (String × AConn)} {r : List (List (String × AElem))} :
    expand ports n conns = .ok r ↔ 1 ≤ n ∧ All2 (fun k es => elemConns ports n k conns = .ok es) (List.range n) r := by
  unfold expand
  split
  · exact ⟨nofun, fun h => by omega⟩
  · rw [elements_ok_iff]; exact ⟨fun h => ⟨by omega, h⟩, fun h => h.2⟩

theorem elem_sig_spec {ports : List (String × Port)} {n k : Nat} {p : String} {c : SConn} {e : AElem}
    (he : elem ports n k p (.sig c) = .ok e) : ∃ w cw, lookupP p ports = some (.sig w) ∧ c.width = .ok cw ∧
      ((w = cw ∧ e = .whole c) ∨ (w ≠ cw ∧ w * n = cw ∧ e = .part c (k * w) ((k + 1) * w))) := by
  rw [elem] at he
  split at he
  · cases he
  · cases he
  · rename_i w hp
    split at he
    · cases he
    · rename_i cw hw
      split at he
      · cases he; exact ⟨w, cw, hp, hw, .inl ⟨‹_›, rfl⟩⟩
      · split at he
        · cases he; exact ⟨w, cw, hp, hw, .inr ⟨‹_›, ‹_›, rfl⟩⟩
        · cases he

/-- the right side does not mention `k`: whether a connection is accepted does not depend on the element -/
theorem elem_sig_total_iff {ports : List (String × Port)} {n k : Nat} {p : String} {c : SConn} :
    (∃ e, elem ports n k p (.sig c) = .ok e) ↔
      ∃ w cw, lookupP p ports = some (.sig w) ∧ c.width = .ok cw ∧ (w = cw ∨ w * n = cw) := by
  constructor
  · rintro ⟨e, he⟩
    obtain ⟨w, cw, hp, hw, hcase⟩ := elem_sig_spec he
    exact ⟨w, cw, hp, hw, hcase.imp (·.1) (·.2.1)⟩
  · rintro ⟨w, cw, hp, hw, hcase⟩
    by_cases h1 : w = cw
    · exact ⟨.whole c, by simp [elem, hp, hw, h1]⟩
    · exact ⟨.part c (k * w) ((k + 1) * w), by simp [elem, hp, hw, h1, hcase.resolve_left h1]⟩

theorem elements_total {ports : List (String × Port)} {n : Nat} {conns : List (String × AConn)}
    (h : ∀ pc ∈ conns, ∀ k, ∃ e, elem ports n k pc.1 pc.2 = .ok e) {l : List Nat} : ∃ r, elements ports n conns l = .ok r := by
  simp only [elements_ok_iff, elemConns_ok_iff]
  refine All2.exists fun k _ => All2.exists fun pc hpc => ?_
  obtain ⟨e, he⟩ := h pc hpc k
  exact ⟨(pc.1, e), rfl, he⟩

end Hdl21.ArrayPass
