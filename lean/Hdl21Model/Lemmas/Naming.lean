/-
The readable name is parsed item by item (`encode_split`), on the form with a space before every item (`spaced`); a successful
generator call is read backwards once (`run_succ_spec`), and `runAll_keeps` carries what single calls keep over a list of calls.
-/
import Hdl21Model.Naming
namespace Hdl21.Naming

theorem unescape_quote (rest : List Char) : unescape ('"' :: rest) = some ([], rest) := by
  cases rest <;> rfl

theorem unescape_backslash (d : Char) (rest : List Char) :
    unescape ('\\' :: d :: rest) = (unescape rest).map fun p => (d :: p.1, p.2) := by
  rw [unescape]
  cases unescape rest <;> rfl

theorem unescape_plain {c : Char} (h1 : c ≠ '"') (h2 : c ≠ '\\') {tl : List Char} (ht : tl ≠ []) :
    unescape (c :: tl) = (unescape tl).map fun p => (c :: p.1, p.2) := by
  cases tl with
  | nil => exact absurd rfl ht
  | cons d rest =>
    rw [unescape, if_neg h1, if_neg h2]
    cases unescape (d :: rest) <;> rfl

theorem unescape_escape (s rest : List Char) :
    unescape (escape s ++ '"' :: rest) = some (s, rest) := by
  induction s with
  | nil => exact unescape_quote rest
  | cons c cs ih =>
    rw [escape]
    split
    · rename_i h; rw [List.cons_append, List.cons_append, unescape_backslash, ih, h]; rfl
    · split
      · rename_i h; rw [List.cons_append, List.cons_append, unescape_backslash, ih, h]; rfl
      · rename_i h2 h1
        rw [List.cons_append, unescape_plain h1 h2 (List.append_ne_nil_of_right_ne_nil _ (List.cons_ne_nil _ _)), ih]; rfl

/-- what may follow a value in a name: the end of the text, or a space -/
def Ends (t : List Char) : Prop := t = [] ∨ ∃ r, t = ' ' :: r

theorem atom_split {a b t1 t2 : List Char} (ha : ' ' ∉ a) (hb : ' ' ∉ b) (h1 : Ends t1) (h2 : Ends t2)
    (h : a ++ t1 = b ++ t2) : a = b ∧ t1 = t2 := by
  -- a text that continues a space-free text and ends it properly does not continue it at all
  have nil : ∀ {a' t : List Char}, Ends (a' ++ t) → ' ' ∉ a' → a' = [] := by
    intro a' t h ha
    cases a' with
    | nil => rfl
    | cons x xs =>
      rcases h with h | ⟨r, h⟩
      · cases h
      · exact absurd (List.mem_cons.mpr (.inl (List.cons.inj h).1.symm)) ha
  rcases List.append_eq_append_iff.mp h with ⟨a', rfl, rfl⟩ | ⟨b', rfl, rfl⟩
  · obtain rfl := nil h1 fun hm => hb (List.mem_append_right _ hm)
    exact ⟨(List.append_nil a).symm, rfl⟩
  · obtain rfl := nil h2 fun hm => ha (List.mem_append_right _ hm)
    exact ⟨List.append_nil b, rfl⟩

theorem encode_split {v w : Value} {t1 t2 : List Char} (hv : v.wf) (hw : w.wf) (h1 : Ends t1) (h2 : Ends t2)
    (h : encode v ++ t1 = encode w ++ t2) : v = w ∧ t1 = t2 := by
  -- a quoted string starts with `"`, a well-formed atom does not
  have quote_ne_atom : ∀ {s b t1 t2 : List Char}, wfAtom b → quote s ++ t1 ≠ b ++ t2 := by
    intro s b t1 t2 ⟨hne, _, hq⟩ h
    cases b with
    | nil => exact hne rfl
    | cons y ys => exact hq (congrArg some (List.cons.inj h).1.symm)
  cases v with
  | str s =>
    cases w with
    | str t =>
      simp only [encode, quote, List.cons_append, List.append_assoc, List.cons.injEq, true_and, List.nil_append] at h
      have e := unescape_escape s t1
      rw [h, unescape_escape t t2] at e
      cases e; exact ⟨rfl, rfl⟩
    | atom b => exact absurd h (quote_ne_atom hw)
  | atom a =>
    cases w with
    | str t => exact absurd h.symm (quote_ne_atom hv)
    | atom b =>
      obtain ⟨e1, e2⟩ := atom_split hv.2.1 hw.2.1 h1 h2 h
      exact ⟨congrArg _ e1, e2⟩

/-- The readable name with a space *before* every item: one equation per item where `readable` has three. -/
def spaced : List (List Char × Value) → List Char
  | [] => []
  | (k, v) :: rest => ' ' :: (k ++ '=' :: (encode v ++ spaced rest))

theorem spaced_eq_readable (p : List Char × Value) (rest : List (List Char × Value)) :
    spaced (p :: rest) = ' ' :: readable (p :: rest) := by
  induction rest generalizing p with
  | nil => simp [spaced, readable]
  | cons q rest ih => rw [spaced, ih q]; simp [readable]

theorem spaced_ends (l : List (List Char × Value)) : Ends (spaced l) := by
  cases l with
  | nil => exact .inl rfl
  | cons _ _ => exact .inr ⟨_, rfl⟩

theorem spaced_injective {kvs kws : List (List Char × Value)} (hk : kvs.map (·.1) = kws.map (·.1)) (hv : ∀ p ∈ kvs, p.2.wf)
    (hw : ∀ p ∈ kws, p.2.wf) (h : spaced kvs = spaced kws) : kvs = kws := by
  induction kvs generalizing kws with
  | nil => cases kws with
    | nil => rfl
    | cons _ _ => cases hk
  | cons p r1 ih => cases kws with
    | nil => cases hk
    | cons q r2 =>
      obtain ⟨k', w⟩ := q
      obtain ⟨rfl, hrest⟩ := List.cons.inj hk
      have h' := (List.cons.inj (List.append_cancel_left (List.cons.inj h).2)).2
      obtain ⟨rfl, e2⟩ := encode_split (hv _ (List.mem_cons_self ..)) (hw _ (List.mem_cons_self ..)) (spaced_ends r1) (spaced_ends r2) h'
      rw [ih hrest (fun p hp => hv p (List.mem_cons_of_mem _ hp)) (fun p hp => hw p (List.mem_cons_of_mem _ hp)) e2]

variable {prog : Call → Body} {f : Nat} {s s' : St} {c : Call} {m : Nat} {ms : List Nat}

theorem run_zero : run prog 0 s c = none := by rw [run]

theorem run_succ_spec (h : run prog (f + 1) s c = some (s', m)) :
    (lookup c s.done = some m ∧ s' = s) ∨
    ∃ s2 ms, lookup c s.done = none ∧
      ((∃ nested, prog c = .fresh nested ∧ runAll prog f { s with runs := c :: s.runs } nested = some (s2, ms) ∧ m = s2.next ∧
          s' = { s2 with next := m + 1, nameOf := (m, c) :: s2.nameOf, genBy := (m, c) :: s2.genBy, done := (c, m) :: s2.done }) ∨
       (∃ nested k, prog c = .forward nested k ∧ runAll prog f { s with runs := c :: s.runs } nested = some (s2, ms) ∧
          ms[k]? = some m ∧ s' = { s2 with genBy := (m, c) :: s2.genBy, done := (c, m) :: s2.done })) := by
  rw [run] at h
  cases hl : lookup c s.done with
  | some m0 => rw [hl] at h; cases h; exact .inl ⟨rfl, rfl⟩
  | none =>
    rw [hl] at h
    cases hp : prog c with
    | fresh nested =>
      simp only [hp] at h
      cases hr : runAll prog f { s with runs := c :: s.runs } nested with
      | none => rw [hr] at h; cases h
      | some r => rw [hr] at h; cases h; exact .inr ⟨r.1, r.2, rfl, .inl ⟨nested, rfl, hr, rfl, rfl⟩⟩
    | forward nested k =>
      simp only [hp] at h
      cases hr : runAll prog f { s with runs := c :: s.runs } nested with
      | none => rw [hr] at h; cases h
      | some r =>
        rw [hr] at h
        cases hk : r.2[k]? with
        | none => simp only [hk] at h; cases h
        | some m' => simp only [hk] at h; cases h; exact .inr ⟨r.1, r.2, rfl, .inr ⟨nested, k, rfl, hr, hk, rfl⟩⟩

theorem runAll_nil : runAll prog f s [] = some (s, []) := by rw [runAll]

theorem runAll_cons_spec {cs : List Call} (h : runAll prog f s (c :: cs) = some (s', ms)) :
    ∃ s1 m ms', run prog f s c = some (s1, m) ∧ runAll prog f s1 cs = some (s', ms') ∧ ms = m :: ms' := by
  rw [runAll] at h
  cases hr : run prog f s c with
  | none => rw [hr] at h; cases h
  | some r =>
    rw [hr] at h
    cases hr2 : runAll prog f r.1 cs with
    | none => simp only [hr2] at h; cases h
    | some r2 => simp only [hr2] at h; cases h; exact ⟨r.1, r.2, r2.2, rfl, hr2, rfl⟩

theorem runAll_keeps {I : St → Prop} {Q : Nat → Prop}
    (hrun : ∀ s s' c m, I s → run prog f s c = some (s', m) → I s' ∧ Q m) {cs : List Call} (hs : I s)
    (h : runAll prog f s cs = some (s', ms)) : I s' ∧ ∀ m ∈ ms, Q m := by
  induction cs generalizing s ms with
  | nil => rw [runAll_nil] at h; cases h; exact ⟨hs, nofun⟩
  | cons c cs ih =>
    obtain ⟨s1, m, ms', h1, h2, rfl⟩ := runAll_cons_spec h
    obtain ⟨hs1, hm⟩ := hrun s s1 c m hs h1
    obtain ⟨hs2, hms⟩ := ih hs1 h2
    exact ⟨hs2, List.forall_mem_cons.mpr ⟨hm, hms⟩⟩

theorem lookup_cons_all {α β} [DecidableEq α] {P : β → Prop} {l : List (α × β)} {a : α} {b : β} (hb : P b)
    (hl : ∀ k v, lookup k l = some v → P v) : ∀ k v, lookup k ((a, b) :: l) = some v → P v := by
  intro k v h
  rw [lookup] at h
  split at h
  · cases h; exact hb
  · exact hl k v h

end Hdl21.Naming
