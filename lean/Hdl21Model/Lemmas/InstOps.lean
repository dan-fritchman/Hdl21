import Hdl21Model.InstOps
import Hdl21Model.Lemmas.List

/-! `connect`, `replace` and `disconnect` are each one `Writes`, and `Inv` crosses a `Writes` once (`Writes.inv`); `step_cases` says
    which of nothing, `portref` and a `Writes` an operation is, and `step_sim` reads that. -/
namespace Hdl21.InstOps

@[simp] theorem lookup_nil (p : Port) : lookup [] p = none := rfl

@[simp] theorem lookup_cons (q : Port) (c : Conn) (t : List (Port × Conn)) (p : Port) :
    lookup ((q, c) :: t) p = if q = p then some c else lookup t p := rfl

theorem lookup_eq_find? (l : List (Port × Conn)) (p : Port) : lookup l p = (l.find? (·.1 == p)).map (·.2) :=
  find?_fst_of_eqns (f := (lookup · p)) rfl (fun _ _ _ => rfl) l

theorem lookup_eq_none_iff {l : List (Port × Conn)} {p : Port} : lookup l p = none ↔ p ∉ l.map (·.1) := by
  rw [lookup_eq_find?, find?_fst_eq_none_iff]

theorem lookup_setAt (l : List (Port × Conn)) (p : Port) (c : Conn) (x : Port) :
    lookup (setAt l p c) x = if x = p then (lookup l p).map (fun _ => c) else lookup l x := by
  induction l with
  | nil => simp [setAt]
  | cons h t ih =>
    obtain ⟨q, d⟩ := h
    by_cases hq : q = p <;> by_cases hx : x = p
    · simp [setAt, hq, hx]
    · simp [setAt, hq, hx, Ne.symm hx]
    · subst hx; simp [setAt, hq, ih]
    · simp [setAt, hq, hx, ih]

theorem keys_setAt {l : List (Port × Conn)} {p : Port} {c : Conn} :
    (setAt l p c).map (·.1) = l.map (·.1) := by
  induction l with
  | nil => rfl
  | cons h t ih => obtain ⟨q, d⟩ := h; by_cases hq : q = p <;> simp [setAt, hq, ih]

theorem keys_eraseKey {l : List (Port × Conn)} {p : Port} :
    (eraseKey l p).map (·.1) = (l.map (·.1)).erase p := by
  induction l with
  | nil => rfl
  | cons h t ih => obtain ⟨q, d⟩ := h; by_cases hq : q = p <;> simp [eraseKey, hq, ih]

/-- `eraseKey` removes the first entry only: it is `pop` because keys do not repeat. -/
theorem lookup_eraseKey {l : List (Port × Conn)} (p x : Port) (hn : (l.map (·.1)).Nodup) :
    lookup (eraseKey l p) x = if x = p then none else lookup l x := by
  induction l with
  | nil => simp [eraseKey]
  | cons h t ih =>
    obtain ⟨q, d⟩ := h
    rw [List.map_cons, List.nodup_cons] at hn
    by_cases hq : q = p <;> by_cases hx : x = p
    · simp [eraseKey, hq, hx, lookup_eq_none_iff.mpr (hq ▸ hn.1)]
    · simp [eraseKey, hq, hx, Ne.symm hx]
    · subst hx; simp [eraseKey, hq, ih hn.2]
    · simp [eraseKey, hq, hx, ih hn.2]

theorem lookup_append {l : List (Port × Conn)} {p : Port} (x : Port) (c : Conn) (hl : lookup l p = none) :
    lookup (l ++ [(p, c)]) x = if x = p then some c else lookup l x := by
  rw [lookup_eq_find?, List.find?_append]
  by_cases hx : x = p
  · subst hx
    rw [lookup_eq_find?, Option.map_eq_none_iff] at hl
    simp [hl]
  · simp [lookup_eq_find?, hx, Ne.symm hx]

theorem mem_insertSet {l : List Port} {p x : Port} : x ∈ insertSet l p ↔ x ∈ l ∨ x = p := by
  unfold insertSet
  by_cases h : p ∈ l
  · rw [if_pos h]; exact ⟨Or.inl, fun h' => h'.elim id (· ▸ h)⟩
  · simp [if_neg h]

theorem mem_insertSet_of_mem {l : List Port} {x p : Port} (h : x ∈ l) : x ∈ insertSet l p :=
  mem_insertSet.mpr (Or.inl h)

theorem insertSet_mono {a b : List Port} (h : ∀ x, x ∈ a → x ∈ b) {p x : Port} (hx : x ∈ insertSet a p) :
    x ∈ insertSet b p :=
  mem_insertSet.mpr ((mem_insertSet.mp hx).imp_left (h x))

theorem nodup_insertSet {l : List Port} (p : Port) (h : l.Nodup) : (insertSet l p).Nodup := by
  unfold insertSet
  by_cases hp : p ∈ l
  · rwa [if_pos hp]
  · rw [if_neg hp]; exact nodup_append_singleton h hp

theorem mem_backAdd (b : Conn → List Port) (c : Conn) (p : Port) (d : Conn) (x : Port) :
    x ∈ backAdd b c p d ↔ x ∈ b d ∨ (d = c ∧ x = p) := by
  unfold backAdd
  by_cases hd : d = c
  · subst hd; simp [mem_insertSet]
  · simp [hd]

theorem mem_backRemove (b : Conn → List Port) (c : Conn) (p : Port) (d : Conn) (x : Port) :
    x ∈ backRemove b c p d ↔ x ∈ b d ∧ ¬ (d = c ∧ x = p) := by
  unfold backRemove
  by_cases hd : d = c
  · subst hd; simp
  · simp [hd]

theorem nodup_backAdd {b : Conn → List Port} (h : ∀ d, (b d).Nodup) (c : Conn) (p : Port) (d : Conn) :
    (backAdd b c p d).Nodup := by
  unfold backAdd
  split
  · exact nodup_insertSet _ (h c)
  · exact h d

theorem nodup_backRemove {b : Conn → List Port} (h : ∀ d, (b d).Nodup) (c : Conn) (p : Port) (d : Conn) :
    (backRemove b c p d).Nodup := by
  unfold backRemove
  split
  · exact (h c).filter _
  · exact h d

theorem inv_init : Inv init :=
  ⟨List.nodup_nil, fun _ _ => by simp [init], fun _ => List.nodup_nil, fun _ h => h, fun _ h => h, fun _ _ h => nomatch h⟩

theorem inv_portref {s : State} (h : Inv s) (p : Port) : Inv (portref s p) :=
  ⟨h.keys, h.back, h.nodup, fun _ => insertSet_mono h.allP, fun x hx => mem_insertSet_of_mem (h.allC x hx),
    h.conn_has_ref⟩

/-- writing to a function the value it has changes nothing -/
theorem write_self {α β : Type _} [DecidableEq α] {f : α → β} {a : α} {b : β} (h : f a = b) (x : α) :
    f x = if x = a then b else f x := by
  by_cases hx : x = a
  · rw [if_pos hx, hx, h]
  · rw [if_neg hx]

/-- one write to port `p`, leaving it mapped to `v`: `connect`, `replace` and `disconnect` differ in `v` alone. `keys` and `nodup` say
    what is kept; `get` asks for distinct keys because `eraseKey` drops the first entry only (`lookup_eraseKey`). A `Writes` holds of
    any state: the invariant comes in once, in `Writes.inv`. -/
structure Writes (s : State) (p : Port) (v : Option Conn) (s' : State) : Prop where
  keys : (s.conns.map (·.1)).Nodup → (s'.conns.map (·.1)).Nodup
  get : (s.conns.map (·.1)).Nodup → ∀ x, lookup s'.conns x = if x = p then v else lookup s.conns x
  /-- those of before, without `p` at the object it was connected to, with `p` at the object written -/
  back : ∀ d x, x ∈ s'.back d ↔ (x ∈ s.back d ∧ ¬ (lookup s.conns p = some d ∧ x = p)) ∨ (v = some d ∧ x = p)
  nodup : (∀ d, (s.back d).Nodup) → ∀ d, (s'.back d).Nodup
  prefs : s'.prefs = s.prefs
  crefs : s'.crefs = insertSet s.crefs p
  all : s'.all = insertSet s.all p

theorem Writes.inv {s s' : State} {p : Port} {v : Option Conn} (w : Writes s p v s') (h : Inv s) : Inv s' := by
  refine ⟨w.keys h.keys, fun d x => ?_, w.nodup h.nodup, fun x hx => ?_, fun x hx => ?_, fun x d hx => ?_⟩
  · rw [w.back, w.get h.keys, h.back]
    by_cases hx : x = p
    · subst hx; simp
    · simp [hx]
  · rw [w.prefs] at hx; rw [w.all]; exact mem_insertSet_of_mem (h.allP x hx)
  · rw [w.crefs] at hx; rw [w.all]; exact insertSet_mono h.allC hx
  · rw [w.get h.keys] at hx; rw [w.crefs]
    by_cases hxp : x = p
    · exact mem_insertSet.mpr (Or.inr hxp)
    · rw [if_neg hxp] at hx; exact mem_insertSet_of_mem (h.conn_has_ref x d hx)

theorem writes_replace (s : State) (p : Port) (c : Conn) :
    Writes s p ((lookup s.conns p).map fun _ => c) (doReplace s p c).1 := by
  cases hl : lookup s.conns p with
  | none =>
    simp only [doReplace, connref, hl]
    exact ⟨id, fun _ => write_self hl, fun d x => by simp [hl], id, rfl, rfl, rfl⟩
  | some old =>
    simp only [doReplace, connref, hl]
    exact ⟨fun hk => keys_setAt.symm ▸ hk, fun _ x => by rw [lookup_setAt, hl],
      fun d x => by simp [mem_backAdd, mem_backRemove, hl, eq_comm],
      fun hn => nodup_backAdd (nodup_backRemove hn old p) c p, rfl, rfl, rfl⟩

theorem writes_connect (s : State) (p : Port) (c : Conn) :
    Writes s p (some c) (step s (.connect p c)).1 := by
  cases hl : lookup s.conns p with
  | some old =>
    simpa only [step, hl, Option.map_some] using writes_replace s p c
  | none =>
    simp only [step, connref, hl]
    exact ⟨fun hk => by rw [List.map_append]; exact nodup_append_singleton hk (lookup_eq_none_iff.mp hl),
      fun _ x => lookup_append x c hl, fun d x => by simp [mem_backAdd, hl, eq_comm],
      fun hn => nodup_backAdd hn c p, rfl, rfl, rfl⟩

theorem writes_disconnect {s : State} {p : Port} {old : Conn} (hl : lookup s.conns p = some old) :
    Writes s p none (step s (.disconnect p)).1 := by
  simp only [step, connref, hl]
  exact ⟨fun hk => keys_eraseKey.symm ▸ hk.erase p, fun hk x => lookup_eraseKey p x hk,
    fun d x => by simp [mem_backRemove, hl, eq_comm], fun hn => nodup_backRemove hn old p, rfl, rfl, rfl⟩

/-- what one operation does: nothing, `portref`, or one write; with what `specStep` does in each case -/
theorem step_cases (s : State) (op : Op) :
    ((step s op).1 = s ∧ specStep (abs s) op = abs s) ∨
    (∃ p, (step s op).1 = portref s p ∧ specStep (abs s) op = abs s) ∨
    (∃ p v, Writes s p v (step s op).1 ∧ specStep (abs s) op = fun x => if x = p then v else abs s x) := by
  cases op with
  | getref p => exact .inr (.inl ⟨p, rfl, rfl⟩)
  | connect p c => exact .inr (.inr ⟨p, _, writes_connect s p c, rfl⟩)
  | replace p c => exact .inr (.inr ⟨p, _, writes_replace s p c, rfl⟩)
  | disconnect p =>
    cases hl : lookup s.conns p with
    | none => exact .inl ⟨by simp only [step, hl], funext fun x => (write_self hl x).symm⟩
    | some old => exact .inr (.inr ⟨p, _, writes_disconnect hl, rfl⟩)

theorem step_sim {s : State} (h : Inv s) (op : Op) : Inv (step s op).1 ∧ abs (step s op).1 = specStep (abs s) op := by
  rcases step_cases s op with ⟨he, hs⟩ | ⟨p, he, hs⟩ | ⟨p, v, w, hs⟩
  · rw [he, hs]; exact ⟨h, rfl⟩
  · rw [he, hs]; exact ⟨inv_portref h p, rfl⟩
  · rw [hs]; exact ⟨w.inv h, funext (w.get h.keys)⟩

theorem run_sim {s : State} (h : Inv s) (ops : List Op) : Inv (run s ops) ∧ abs (run s ops) = specRun (abs s) ops := by
  induction ops generalizing s with
  | nil => exact ⟨h, rfl⟩
  | cons op ops ih =>
    obtain ⟨hi, ha⟩ := step_sim h op
    exact ⟨(ih hi).1, (ih hi).2.trans (congrArg (specRun · ops) ha)⟩

theorem specRun_append (m : Spec) (a b : List Op) : specRun m (a ++ b) = specRun (specRun m a) b :=
  List.foldl_append

end Hdl21.InstOps
