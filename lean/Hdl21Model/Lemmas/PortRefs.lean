import Hdl21Model.PortRefs

/-! `resolvePort` read through the group of its port: `group` is the component of `nbrs` (`group_spec`, `group_total`), and the answer
    is one `if` on the members of that group (`resolvePort_eq`), from which the rest of the file is read off.  A number handed out
    stands for one node (`anchor`) to which every node that carries it is wired, so the numbers are a complete invariant of the
    designer's wiring (`label_eq_iff_wired`). -/
namespace Hdl21.PortRefs
open Hdl21.Dfs

/-- the signal of a group as `resolvePort` reads it once the no-connect tests are past -/
def groupVal (m : Mod) (g : List Port) : Option Nat :=
  match uniqueSource (g.filterMap (srcOf m)) with
  | none => none
  | some (some s) => some s
  | some none => inventedFor m g

/-- the label every node carries once the pass is done (port `p` resolved to `r p`): a port the signal it ends on, a signal
    itself -/
def label (r : Port → Nat) : Node → Nat
  | .port p => r p
  | .sig s => s

/-- what makes the pass raise, said without reference to the pass -/
inductive IllFormed (m : Mod) : Prop
  /-- a port that is neither connected nor referenced -/
  | dangling (p : Port) : p ∈ m.ports → look m p = none → (∀ q, look m q ≠ some (.pref p)) → IllFormed m
  /-- a no-connected port that shares its group with another port (it is referenced, or refers, elsewhere) -/
  | ncShared (p q : Port) : p ∈ m.ports → isNc m p = true → Reach (nbrs m) p q → q ≠ p → IllFormed m
  /-- two different declared signals in one group -/
  | twoSignals (p x y : Port) (s t : Nat) : p ∈ m.ports → Reach (nbrs m) p x → Reach (nbrs m) p y →
      look m x = some (.sig s) → look m y = some (.sig t) → s ≠ t → IllFormed m

theorem mem_back {m : Mod} {p q : Port} : q ∈ back m p ↔ (q, Conn.pref p) ∈ m.conns := by
  simp only [back, List.mem_filterMap, Option.ite_none_right_eq_some, Option.some.injEq]
  exact ⟨fun ⟨e, he, h2, h1⟩ => by rw [← h1, ← h2]; exact he, fun h => ⟨_, h, rfl, rfl⟩⟩

theorem mem_nbrs {m : Mod} (wf : WF m) {p q : Port} :
    q ∈ nbrs m p ↔ look m p = some (.pref q) ∨ look m q = some (.pref p) := by
  unfold nbrs
  rw [List.mem_append, mem_back]
  refine or_congr ?_ ⟨find?_fst_of_mem wf.keys, mem_of_find?_fst⟩
  cases look m p with
  | none => simp
  | some c => cases c <;> simp [eq_comm]

theorem reach_symm {m : Mod} (wf : WF m) {a b : Port} (h : Reach (nbrs m) a b) : Reach (nbrs m) b a := by
  induction h with
  | refl _ => exact .refl _
  | step hb _ ih => exact ih.trans (Reach.single ((mem_nbrs wf).mpr ((mem_nbrs wf).mp hb).symm))

theorem group_spec {m : Mod} {p : Port} {g : List Port} (h : group m p = some g) :
    ∀ x, x ∈ g ↔ Reach (nbrs m) p x := dfs_component (nbrs m) (fuelOf m) p g h

theorem group_total {m : Mod} (wf : WF m) (p : Port) (hp : p ∈ m.ports) : (group m p).isSome := by
  have hU : ∀ x, x ∈ m.ports → ∀ y, y ∈ nbrs m x → y ∈ m.ports := by
    intro x _ y hy
    rcases (mem_nbrs wf).mp hy with h | h
    · exact wf.prefIn _ (mem_of_find?_fst h) y rfl
    · exact wf.keysIn _ (mem_of_find?_fst h)
  obtain ⟨g, hg⟩ := dfs_total (nbrs m) m.ports hU (fuelOf m) p [] hp (by
    have : unvisited m.ports [] ≤ m.ports.length := List.length_filter_le _ _
    unfold fuelOf; omega)
  unfold group; rw [hg]; rfl

theorem group_self {m : Mod} {p : Port} {g : List Port} (h : group m p = some g) : p ∈ g :=
  (group_spec h p).mpr (.refl p)

theorem reach_wired {m : Mod} (wf : WF m) {a b : Port} (h : Reach (nbrs m) a b) : Wired m (.port a) (.port b) := by
  induction h with
  | refl _ => exact .refl _
  | step hb _ ih =>
    rcases (mem_nbrs wf).mp hb with h1 | h1
    · exact .trans (.edge (.toPort h1)) ih
    · exact .trans (.symm (.edge (.toPort h1))) ih

theorem srcOf_eq_some_iff {m : Mod} {x : Port} {s : Nat} : srcOf m x = some s ↔ look m x = some (.sig s) := by
  unfold srcOf
  cases look m x with
  | none => simp
  | some c => cases c <;> simp

theorem isNc_iff {m : Mod} {x : Port} : isNc m x = true ↔ ∃ id, look m x = some (.nc id) := by
  unfold isNc
  cases look m x with
  | none => simp
  | some c => cases c <;> simp

theorem mem_srcs {m : Mod} {g : List Port} {s : Nat} :
    s ∈ g.filterMap (srcOf m) ↔ ∃ x ∈ g, look m x = some (.sig s) := by
  simp only [List.mem_filterMap, srcOf_eq_some_iff]

theorem uniqueSource_cons (s : Nat) (r : List Nat) :
    uniqueSource (s :: r) = if ∀ y ∈ r, y = s then some (some s) else none := by
  simp [uniqueSource]

theorem uniqueSource_eq_some_none_iff {l : List Nat} : uniqueSource l = some none ↔ l = [] := by
  cases l with
  | nil => simp [uniqueSource]
  | cons s r => rw [uniqueSource_cons]; split <;> simp

theorem uniqueSource_eq_some_some_iff {l : List Nat} {s : Nat} :
    uniqueSource l = some (some s) ↔ s ∈ l ∧ ∀ y ∈ l, y = s := by
  cases l with
  | nil => simp [uniqueSource]
  | cons a r =>
    rw [uniqueSource_cons, List.forall_mem_cons]
    constructor
    · intro h
      split at h
      · rename_i hall
        cases h
        exact ⟨List.mem_cons_self .., rfl, hall⟩
      · cases h
    · rintro ⟨_, rfl, hall⟩
      rw [if_pos hall]

theorem uniqueSource_eq_none_iff {l : List Nat} : uniqueSource l = none ↔ ∃ a ∈ l, ∃ b ∈ l, a ≠ b := by
  cases l with
  | nil => simp [uniqueSource]
  | cons s r =>
    rw [uniqueSource_cons]
    constructor
    · intro h
      split at h
      · cases h
      · rename_i hall
        obtain ⟨y, hy⟩ := Classical.not_forall.mp hall
        obtain ⟨hy, hne⟩ := Classical.not_imp.mp hy
        exact ⟨y, List.mem_cons_of_mem _ hy, s, List.mem_cons_self .., hne⟩
    · rintro ⟨a, ha, b, hb, hab⟩
      -- were all of `r` equal to `s`, so would `a` and `b` be
      refine if_neg fun hall => hab ?_
      have all : ∀ y ∈ s :: r, y = s := List.forall_mem_cons.mpr ⟨rfl, hall⟩
      exact (all a ha).trans (all b hb).symm

theorem inventedFor_spec {m : Mod} {g : List Port} {v : Nat} (h : inventedFor m g = some v) :
    ∃ idx z, v = m.nsig + idx ∧ m.ports[idx]? = some z ∧ z ∈ g := by
  obtain ⟨idx, hf, rfl⟩ := Option.map_eq_some_iff.mp h
  obtain ⟨hlt, hp, _⟩ := List.findIdx?_eq_some_iff_getElem.mp hf
  exact ⟨idx, m.ports[idx], rfl, List.getElem?_eq_getElem hlt, of_decide_eq_true hp⟩

theorem inventedFor_total {m : Mod} {g : List Port} {p : Port} (hp : p ∈ m.ports) (hg : p ∈ g) : (inventedFor m g).isSome := by
  unfold inventedFor
  rw [Option.isSome_map, List.findIdx?_isSome, List.any_eq_true]
  exact ⟨p, hp, decide_eq_true hg⟩

/-- the invented signal depends on the group through its members only, not on the order the search found them in -/
theorem inventedFor_congr {m : Mod} {g g' : List Port} (h : ∀ y, y ∈ g ↔ y ∈ g') : inventedFor m g = inventedFor m g' := by
  simp only [inventedFor, h]

theorem groupVal_spec {m : Mod} {g : List Port} {v : Nat} (h : groupVal m g = some v) :
    (∃ x ∈ g, look m x = some (.sig v)) ∨ inventedFor m g = some v := by
  unfold groupVal at h
  split at h
  · cases h
  · rename_i s e
    cases h
    exact .inl (mem_srcs.mp (uniqueSource_eq_some_some_iff.mp e).1)
  · exact .inr h

theorem groupVal_of_sig {m : Mod} {g : List Port} {x : Port} {s v : Nat} (hx : x ∈ g) (hl : look m x = some (.sig s))
    (h : groupVal m g = some v) : v = s := by
  have hs : s ∈ g.filterMap (srcOf m) := mem_srcs.mpr ⟨x, hx, hl⟩
  unfold groupVal at h
  split at h
  · cases h
  · rename_i s' e
    cases h
    exact ((uniqueSource_eq_some_some_iff.mp e).2 s hs).symm
  · rename_i e
    rw [uniqueSource_eq_some_none_iff.mp e] at hs; cases hs

theorem groupVal_eq_none {m : Mod} {g : List Port} (h : groupVal m g = none) :
    (∃ x ∈ g, ∃ y ∈ g, ∃ s t, look m x = some (.sig s) ∧ look m y = some (.sig t) ∧ s ≠ t) ∨ inventedFor m g = none := by
  unfold groupVal at h
  split at h
  · rename_i e
    obtain ⟨a, ha, b, hb, hab⟩ := uniqueSource_eq_none_iff.mp e
    obtain ⟨x, hx, lx⟩ := mem_srcs.mp ha
    obtain ⟨y, hy, ly⟩ := mem_srcs.mp hb
    exact .inl ⟨x, hx, y, hy, a, b, lx, ly, hab⟩
  · cases h
  · exact .inr h

theorem resolvePort_eq {m : Mod} {p : Port} {g : List Port} (hg : group m p = some g) :
    resolvePort m p =
      if (look m p = none ∧ back m p = []) ∨ ((∃ y ∈ g, isNc m y = true) ∧ ∃ z ∈ g, z ≠ p) then none else groupVal m g := by
  unfold resolvePort
  simp only [hg]
  by_cases hd : look m p = none ∧ back m p = []
  · rw [if_pos hd]; exact (if_pos (.inl hd)).symm
  rw [if_neg hd]
  by_cases hany : g.any (isNc m) = true
  · rw [if_pos hany]
    by_cases hall : g.all (· == p) = true
    · -- the group is `{p}` and `p` is on a no-connect: no declared signal in it
      rw [if_pos hall]
      simp only [List.all_eq_true, beq_iff_eq] at hall
      refine .trans ?_ (if_neg fun hb => hb.elim hd fun ⟨_, z, hz, hne⟩ => hne (hall z hz)).symm
      obtain ⟨y, hy, hnc⟩ := List.any_eq_true.mp hany
      have hsrc : g.filterMap (srcOf m) = [] := by
        rw [List.filterMap_eq_nil_iff]
        intro x hx
        obtain ⟨id, hid⟩ := isNc_iff.mp (hall y hy ▸ hnc)
        simp [hall x hx, srcOf, hid]
      simp [groupVal, hsrc, uniqueSource]
    · rw [if_neg hall]
      obtain ⟨z, hz, hne⟩ := List.all_eq_false.mp (Bool.not_eq_true _ ▸ hall)
      exact (if_pos (.inr ⟨List.any_eq_true.mp hany, z, hz, by simpa using hne⟩)).symm
  · rw [if_neg hany]
    exact (if_neg fun hb => hb.elim hd fun ⟨hy, _⟩ => hany (List.any_eq_true.mpr hy)).symm

theorem resolvePort_spec {m : Mod} {p : Port} {v : Nat} (h : resolvePort m p = some v) :
    ∃ g, group m p = some g ∧ ¬ (look m p = none ∧ back m p = []) ∧ (∀ y ∈ g, isNc m y = true → ∀ z ∈ g, z = p) ∧
      groupVal m g = some v := by
  cases hg : group m p with
  | none => simp [resolvePort, hg] at h
  | some g =>
    rw [resolvePort_eq hg] at h
    split at h
    · cases h
    · rename_i hgood
      exact ⟨g, rfl, fun hd => hgood (.inl hd),
        fun y hy hnc z hz => Classical.byContradiction fun hne => hgood (.inr ⟨⟨y, hy, hnc⟩, z, hz, hne⟩), h⟩

/-- what a successful resolution rests on: a declared signal found in the group, or a signal invented for a port of the group -/
theorem resolvePort_basis {m : Mod} {p : Port} {v : Nat} (h : resolvePort m p = some v) :
    (∃ x, Reach (nbrs m) p x ∧ look m x = some (.sig v)) ∨
    ∃ idx z, v = m.nsig + idx ∧ m.ports[idx]? = some z ∧ Reach (nbrs m) p z := by
  obtain ⟨g, hg, _, _, hv⟩ := resolvePort_spec h
  rcases groupVal_spec hv with ⟨x, hx, hl⟩ | hi
  · exact .inl ⟨x, (group_spec hg x).mp hx, hl⟩
  · obtain ⟨idx, z, hv, hz, hzg⟩ := inventedFor_spec hi
    exact .inr ⟨idx, z, hv, hz, (group_spec hg z).mp hzg⟩

theorem resolvePort_same_group {m : Mod} (wf : WF m) {p x : Port} {v v' : Nat} (hr : Reach (nbrs m) p x)
    (hp : resolvePort m p = some v) (hx : resolvePort m x = some v') : v = v' := by
  obtain ⟨gp, hgp, _, _, hv⟩ := resolvePort_spec hp
  obtain ⟨gx, hgx, _, _, hv'⟩ := resolvePort_spec hx
  have hmem : ∀ y, y ∈ gx ↔ y ∈ gp := fun y => by
    rw [group_spec hgp, group_spec hgx]; exact ⟨hr.trans, (reach_symm wf hr).trans⟩
  rcases groupVal_spec hv with ⟨y, hy, hl⟩ | hi
  · exact (groupVal_of_sig ((hmem y).mpr hy) hl hv').symm
  rcases groupVal_spec hv' with ⟨y, hy, hl⟩ | hi'
  · exact groupVal_of_sig ((hmem y).mp hy) hl hv
  · -- both invented, for one set of ports
    rw [inventedFor_congr hmem] at hi'
    exact Option.some.inj (hi.symm.trans hi')

theorem resolvePort_of_sig {m : Mod} {p y : Port} {s v : Nat} (hr : Reach (nbrs m) p y) (hl : look m y = some (.sig s))
    (h : resolvePort m p = some v) : v = s := by
  obtain ⟨g, hg, _, _, hv⟩ := resolvePort_spec h
  exact groupVal_of_sig ((group_spec hg y).mpr hr) hl hv

theorem resolvePort_nc_alone {m : Mod} {p : Port} {id v : Nat} (hl : look m p = some (.nc id)) (h : resolvePort m p = some v) :
    ∀ x, Reach (nbrs m) p x → x = p := by
  obtain ⟨g, hg, _, halone, _⟩ := resolvePort_spec h
  exact fun x hx => halone p (group_self hg) (isNc_iff.mpr ⟨id, hl⟩) x ((group_spec hg x).mpr hx)

theorem wired_label {m : Mod} (wf : WF m) {r : Port → Nat} (hres : ∀ p ∈ m.ports, resolvePort m p = some (r p))
    {a b : Node} (h : Wired m a b) : label r a = label r b := by
  induction h with
  | refl _ => rfl
  | symm _ ih => exact ih.symm
  | trans _ _ ih1 ih2 => exact ih1.trans ih2
  | edge he =>
    cases he with
    | @toSig p s hl => exact resolvePort_of_sig (.refl p) hl (hres p (wf.keysIn _ (mem_of_find?_fst hl)))
    | @toPort p q hl =>
      exact resolvePort_same_group wf (Reach.single ((mem_nbrs wf).mpr (Or.inl hl)))
        (hres p (wf.keysIn _ (mem_of_find?_fst hl))) (hres q (wf.prefIn _ (mem_of_find?_fst hl) q rfl))

def Node.Valid (m : Mod) : Node → Prop
  | .port p => p ∈ m.ports
  | .sig s => s < m.nsig

/-- the node a signal number stands for: the declared signal itself, or the port a signal was invented for -/
def anchor (m : Mod) (v : Nat) : Option Node :=
  if v < m.nsig then some (.sig v) else (m.ports[v - m.nsig]?).map .port

/-- every node is wired to what its label stands for: a declared signal is below `nsig`, an invented one is not -/
theorem wired_anchor {m : Mod} (wf : WF m) {r : Port → Nat} (hres : ∀ p ∈ m.ports, resolvePort m p = some (r p))
    {a : Node} (ha : a.Valid m) : ∃ c, anchor m (label r a) = some c ∧ Wired m a c := by
  cases a with
  | sig s => exact ⟨.sig s, if_pos ha, .refl _⟩
  | port p =>
    rcases resolvePort_basis (hres p ha) with ⟨x, hr, hl⟩ | ⟨idx, z, hv, hz, hr⟩
    · exact ⟨.sig (r p), if_pos (wf.sigIn _ (mem_of_find?_fst hl) _ rfl), .trans (reach_wired wf hr) (.edge (.toSig hl))⟩
    · refine ⟨.port z, ?_, reach_wired wf hr⟩
      rw [label, anchor, if_neg (hv ▸ Nat.not_lt.mpr (Nat.le_add_right ..)), hv, Nat.add_sub_cancel_left, hz]; rfl

/-- **The labels are a complete invariant of `Wired`**: two nodes of the module carry one number iff the designer's
    connections join them. -/
theorem label_eq_iff_wired {m : Mod} (wf : WF m) {r : Port → Nat} (hres : ∀ p ∈ m.ports, resolvePort m p = some (r p))
    {a b : Node} (ha : a.Valid m) (hb : b.Valid m) : label r a = label r b ↔ Wired m a b := by
  refine ⟨fun e => ?_, wired_label wf hres⟩
  obtain ⟨c, hc, wa⟩ := wired_anchor wf hres ha
  obtain ⟨c', hc', wb⟩ := wired_anchor wf hres hb
  cases Option.some.inj (hc.symm.trans (e ▸ hc'))
  exact .trans wa (.symm wb)

/-- a no-connected port that the pass accepts is wired to nothing but itself -/
theorem wired_nc {m : Mod} (wf : WF m) {p : Port} {id v : Nat} (hl : look m p = some (.nc id)) (h : resolvePort m p = some v)
    {a b : Node} (w : Wired m a b) : a = .port p ↔ b = .port p := by
  induction w with
  | refl _ => exact Iff.rfl
  | symm _ ih => exact ih.symm
  | trans _ _ ih1 ih2 => exact ih1.trans ih2
  | edge he =>
    -- `p` has no edge of its own, and whoever refers to it is in its group, so is `p`
    have out : ∀ {c : Conn}, look m p = some c → c = .nc id := fun hc => Option.some.inj (hc.symm.trans hl)
    cases he with
    | @toSig q s hq => exact ⟨(fun e => by cases e; cases out hq), fun e => by cases e⟩
    | @toPort q q' hq =>
      refine ⟨(fun e => by cases e; cases out hq), fun e => ?_⟩
      cases e
      cases resolvePort_nc_alone hl h q (Reach.single ((mem_nbrs wf).mpr (.inr hq)))
      cases out hq

theorem back_nil_iff {m : Mod} (wf : WF m) (p : Port) : back m p = [] ↔ ∀ q, look m q ≠ some (.pref p) := by
  rw [List.eq_nil_iff_forall_not_mem]
  exact forall_congr' fun q => not_congr (mem_back.trans ⟨find?_fst_of_mem wf.keys, mem_of_find?_fst⟩)

theorem exists_resolvePort_eq_none_iff {m : Mod} (wf : WF m) :
    (∃ p ∈ m.ports, resolvePort m p = none) ↔ IllFormed m := by
  constructor
  · rintro ⟨p, hp, hnone⟩
    obtain ⟨g, hg⟩ := Option.isSome_iff_exists.mp (group_total wf p hp)
    rw [resolvePort_eq hg] at hnone
    split at hnone
    · rename_i hbad
      rcases hbad with hd | ⟨⟨y, hy, hync⟩, z, hz, hzne⟩
      · exact .dangling p hp hd.1 ((back_nil_iff wf p).mp hd.2)
      · -- `y` is on a no-connect and `z ≠ p` shares its group: one of `p`, `z` differs from `y`
        have hry := (group_spec hg y).mp hy
        obtain ⟨id, hid⟩ := isNc_iff.mp hync
        have hyp : y ∈ m.ports := wf.keysIn _ (mem_of_find?_fst hid)
        by_cases hyz : z = y
        · exact .ncShared y p hyp hync (reach_symm wf hry) (fun e => hzne (hyz.trans e.symm))
        · exact .ncShared y z hyp hync ((reach_symm wf hry).trans ((group_spec hg z).mp hz)) hyz
    · rcases groupVal_eq_none hnone with ⟨x, hx, y, hy, s, t, lx, ly, hst⟩ | hi
      · exact .twoSignals p x y s t hp ((group_spec hg x).mp hx) ((group_spec hg y).mp hy) lx ly hst
      · cases hi ▸ inventedFor_total hp (group_self hg)
  · intro hill
    -- in each case `p` itself is refused: were it resolved, its group would contradict the fault
    cases hill with
    | dangling p hp hl hb =>
      refine ⟨p, hp, Option.eq_none_iff_forall_ne_some.mpr fun v hres => ?_⟩
      obtain ⟨_, _, hd, _⟩ := resolvePort_spec hres
      exact hd ⟨hl, (back_nil_iff wf p).mpr hb⟩
    | ncShared p q hp hnc hr hne =>
      refine ⟨p, hp, Option.eq_none_iff_forall_ne_some.mpr fun v hres => ?_⟩
      obtain ⟨g, hg, _, halone, _⟩ := resolvePort_spec hres
      exact hne (halone p (group_self hg) hnc q ((group_spec hg q).mpr hr))
    | twoSignals p x y s t hp hrx hry hlx hly hst =>
      refine ⟨p, hp, Option.eq_none_iff_forall_ne_some.mpr fun v hres => ?_⟩
      exact hst ((resolvePort_of_sig hrx hlx hres).symm.trans (resolvePort_of_sig hry hly hres))

end Hdl21.PortRefs
