/-
# A list of fallible steps, all of which must succeed

The models write that loop out by hand; those the pipeline theorems go through are shown equal to `l.mapM f` (`X_eq_mapM`, two
case splits), and from there on `mapM_ok_iff : l.mapM f = .ok r ↔ All2 (fun a b => f a = .ok b) l r` says what an answer
looks like and when there is one.
-/
import Hdl21Model.Lemmas.Except
namespace Hdl21

/-- core has no `Forall₂` -/
inductive ModulePipe.All2 {α β} (R : α → β → Prop) : List α → List β → Prop
  | nil : All2 R [] []
  | cons {a b l m} : R a b → All2 R l m → All2 R (a :: l) (b :: m)

open ModulePipe (All2)

variable {α β γ ε : Type _}

theorem ModulePipe.All2.imp_mem {R T : α → β → Prop} {l : List α} {m : List β} (h : All2 R l m)
    (hT : ∀ a ∈ l, ∀ b ∈ m, R a b → T a b) : All2 T l m := by
  induction h with
  | nil => exact .nil
  | cons hr _ ih =>
    exact .cons (hT _ (List.mem_cons_self ..) _ (List.mem_cons_self ..) hr)
      (ih fun a ha b hb => hT a (List.mem_cons_of_mem _ ha) b (List.mem_cons_of_mem _ hb))

theorem ModulePipe.All2.imp {R T : α → β → Prop} {l : List α} {m : List β} (h : All2 R l m) (hT : ∀ a b, R a b → T a b) : All2 T l m :=
  h.imp_mem fun a _ b _ => hT a b

theorem ModulePipe.All2.comp {R : α → β → Prop} {S : β → γ → Prop} {l : List α} {m : List β} {n : List γ} (h : All2 R l m)
    (h' : All2 S m n) : All2 (fun a c => ∃ b, R a b ∧ S b c) l n := by
  induction h generalizing n with
  | nil => cases h'; exact .nil
  | cons hr _ ih => cases h' with | cons hs t' => exact .cons ⟨_, hr, hs⟩ (ih t')

theorem ModulePipe.All2.getElem? {R : α → β → Prop} {l : List α} {m : List β} (h : All2 R l m) :
    l.length = m.length ∧ ∀ (j : Nat) (a : α), l[j]? = some a → ∃ b, m[j]? = some b ∧ R a b := by
  induction h with
  | nil => exact ⟨rfl, fun j a h => by cases h⟩
  | cons hr _ ih =>
    refine ⟨congrArg (· + 1) ih.1, fun j a h => ?_⟩
    cases j with
    | zero => cases h; exact ⟨_, rfl, hr⟩
    | succ j => exact ih.2 j a h

theorem ModulePipe.All2.length_eq {R : α → β → Prop} {l : List α} {m : List β} (h : All2 R l m) : l.length = m.length :=
  h.getElem?.1

theorem ModulePipe.All2.mem_left {R : α → β → Prop} {l : List α} {m : List β} (h : All2 R l m) {a : α} (ha : a ∈ l) : ∃ b ∈ m, R a b := by
  obtain ⟨j, hj⟩ := List.getElem?_of_mem ha
  obtain ⟨b, hb, hr⟩ := h.getElem?.2 j a hj
  exact ⟨b, List.mem_of_getElem? hb, hr⟩

theorem ModulePipe.All2.flip {R : α → β → Prop} {l : List α} {m : List β} (h : All2 R l m) : All2 (fun b a => R a b) m l := by
  induction h with
  | nil => exact .nil
  | cons hr _ ih => exact .cons hr ih

theorem ModulePipe.All2.mem_right {R : α → β → Prop} {l : List α} {m : List β} (h : All2 R l m) {b : β} (hb : b ∈ m) : ∃ a ∈ l, R a b :=
  h.flip.mem_left hb

theorem ModulePipe.All2.map_eq {R : α → β → Prop} {f : α → γ} {g : β → γ} (hR : ∀ a b, R a b → g b = f a) {l : List α} {m : List β}
    (h : All2 R l m) : m.map g = l.map f := by
  induction h with
  | nil => rfl
  | cons hr _ ih => rw [List.map_cons, List.map_cons, hR _ _ hr, ih]

theorem ModulePipe.All2.of_getElem? {R : α → β → Prop} {l : List α} {m : List β} (hlen : l.length = m.length)
    (h : ∀ (j : Nat) (a : α) (b : β), l[j]? = some a → m[j]? = some b → R a b) : All2 R l m := by
  induction l generalizing m with
  | nil => cases m with
    | nil => exact .nil
    | cons b m => cases hlen
  | cons a l ih => cases m with
    | nil => cases hlen
    | cons b m => exact .cons (h 0 a b rfl rfl) (ih (Nat.succ.inj hlen) fun j => h (j + 1))

theorem ModulePipe.All2.map_left {δ : Type _} {R : δ → β → Prop} {f : α → δ} {l : List α} {m : List β} (h : All2 R (l.map f) m) :
    All2 (fun a b => R (f a) b) l m := by
  induction l generalizing m with
  | nil => cases h; exact .nil
  | cons a l ih => cases h with | cons hr t => exact .cons hr (ih t)

theorem ModulePipe.All2.map_flatten {R : α → List β → Prop} {g : β → γ} {F : α → List γ} (hR : ∀ a b, R a b → b.map g = F a) {l : List α}
    {m : List (List β)} (h : All2 R l m) : m.flatten.map g = l.flatMap F := by
  induction h with
  | nil => rfl
  | cons hr _ ih => rw [List.flatten_cons, List.map_append, hR _ _ hr, ih, List.flatMap_cons]

theorem ModulePipe.All2.append {R : α → β → Prop} {l l' : List α} {m m' : List β} (h : All2 R l m) (h' : All2 R l' m') :
    All2 R (l ++ l') (m ++ m') := by
  induction h with
  | nil => exact h'
  | cons hr _ ih => exact .cons hr ih

theorem ModulePipe.All2.exists {R : α → β → Prop} {l : List α} (h : ∀ a ∈ l, ∃ b, R a b) : ∃ m, All2 R l m := by
  induction l with
  | nil => exact ⟨[], .nil⟩
  | cons a l ih =>
    obtain ⟨b, hb⟩ := h a (List.mem_cons_self ..)
    obtain ⟨m, hm⟩ := ih fun x hx => h x (List.mem_cons_of_mem _ hx)
    exact ⟨b :: m, .cons hb hm⟩

theorem ModulePipe.All2.map_map {δ : Type _} {R : β → γ → Prop} {f : δ → β} {g : δ → γ} {l : List δ}
    (h : ∀ a ∈ l, R (f a) (g a)) : All2 R (l.map f) (l.map g) := by
  induction l with
  | nil => exact .nil
  | cons a l ih => exact .cons (h a (List.mem_cons_self ..)) (ih fun x hx => h x (List.mem_cons_of_mem _ hx))

theorem mapM_ok_iff {f : α → Except ε β} {l : List α} {r : List β} :
    l.mapM f = .ok r ↔ All2 (fun a b => f a = .ok b) l r := by
  induction l generalizing r with
  | nil =>
    exact ⟨fun h => by cases h; exact .nil, fun h => by cases h; rfl⟩
  | cons a l ih =>
    simp only [List.mapM_cons, Except.bind_eq_ok, ih]
    exact ⟨fun ⟨b, hb, t, ht, h⟩ => by cases h; exact .cons hb ht, fun h => by cases h with | cons hb ht => exact ⟨_, hb, _, ht, rfl⟩⟩

/-- a step that is an `Option` with an error for `none` -/
theorem elim_ok_iff {o : Option β} {e : ε} {b : β} : o.elim (Except.error e) Except.ok = .ok b ↔ o = some b := by
  cases o <;> simp

/-- the shape most of the loops have: the element's key is kept, its value goes through `g` -/
theorem map_snd_ok_iff {κ : Type _} {x : Except ε β} {k : κ} {p : κ × β} : (fun b => (k, b)) <$> x = .ok p ↔ p.1 = k ∧ x = .ok p.2 := by
  obtain ⟨k', b⟩ := p
  rw [Except.map_eq_ok]
  exact ⟨fun ⟨a, ha, he⟩ => by cases he; exact ⟨rfl, ha⟩, fun ⟨hk, hx⟩ => ⟨b, hx, by cases hk; rfl⟩⟩

variable {f : α → Except ε β} {l : List α} {l' : List β}

theorem mapM_length (h : l.mapM f = .ok l') : l'.length = l.length :=
  (mapM_ok_iff.mp h).length_eq.symm

theorem mapM_getElem? (h : l.mapM f = .ok l') {n : Nat} {a : α} {b : β} (ha : l[n]? = some a) (hb : l'[n]? = some b) :
    f a = .ok b := by
  obtain ⟨b', hb', hab⟩ := (mapM_ok_iff.mp h).getElem?.2 n a ha
  cases hb.symm.trans hb'
  exact hab

theorem mapM_error {e : ε} (h : l.mapM f = .error e) : ∃ a ∈ l, f a = .error e := by
  induction l with
  | nil => cases h
  | cons a r ih =>
    rw [List.mapM_cons, Except.bind_eq_error] at h
    rcases h with ha | ⟨b, _, h⟩
    · exact ⟨a, List.mem_cons_self .., ha⟩
    · rw [Except.bind_eq_error] at h
      rcases h with hr | ⟨r', _, h⟩
      · obtain ⟨x, hx, hfx⟩ := ih hr
        exact ⟨x, List.mem_cons_of_mem _ hx, hfx⟩
      · cases h

theorem mapM_eq_some_iff {α β : Type} {f : α → Option β} {l : List α} {r : List β} :
    l.mapM f = some r ↔ All2 (fun a b => f a = some b) l r := by
  induction l generalizing r with
  | nil =>
    exact ⟨fun h => by cases h; exact .nil, fun h => by cases h; rfl⟩
  | cons a l ih =>
    simp only [List.mapM_cons, Option.bind_eq_bind, Option.bind_eq_some_iff, ih]
    exact ⟨fun ⟨b, hb, t, ht, h⟩ => by cases h; exact .cons hb ht, fun h => by cases h with | cons hb ht => exact ⟨_, hb, _, ht, rfl⟩⟩

theorem map_snd_eq_some_iff {κ β : Type _} {x : Option β} {k : κ} {p : κ × β} :
    x.map (fun b => (k, b)) = some p ↔ p.1 = k ∧ x = some p.2 := by
  obtain ⟨k', b⟩ := p
  cases x <;> simp [eq_comm]

theorem mapM_map_except {ε α β κ} (f : α → β) (g : κ → Except ε α) (ks : List κ) :
    List.mapM (fun k => (g k).map f) ks = (List.mapM g ks).map (List.map f) := by
  induction ks with
  | nil => rfl
  | cons k ks ih =>
    rw [List.mapM_cons, List.mapM_cons, ih]
    cases g k with
    | error e => rfl
    | ok a => cases List.mapM g ks <;> rfl

end Hdl21
