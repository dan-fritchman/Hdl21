/-
# Lemmas for the instance-bundle pass (C01, C02): its two loops are `List.mapM`
-/
import Hdl21Model.InstBundle
import Hdl21Model.Lemmas.MapM
import Hdl21Model.Lemmas.List
namespace Hdl21.InstBundle
open Hdl21.ModulePipe (All2)

theorem elemConns_eq_mapM (ty : String) (ms : List String) (m : String) (conns : List (String × IBConn)) :
    elemConns ty ms m conns = List.mapM (fun pc => (fun e => (pc.1, e)) <$> elemConn ty ms m pc.2) conns := by
  induction conns with
  | nil => rfl
  | cons pc rest ih =>
    rw [elemConns, List.mapM_cons, ih]
    cases elemConn ty ms m pc.2 <;> cases (List.mapM _ rest : Except _ _) <;> rfl

theorem expandMembers_eq_mapM (ty : String) (ms : List String) (conns : List (String × IBConn)) (l : List String) :
    expandMembers ty ms conns l = List.mapM (fun m => (fun es => (m, es)) <$> elemConns ty ms m conns) l := by
  induction l with
  | nil => rfl
  | cons m rest ih =>
    rw [expandMembers, List.mapM_cons, ih]
    cases elemConns ty ms m conns <;> cases (List.mapM _ rest : Except _ _) <;> rfl

theorem elemConns_ok_iff {ty : String} {ms : List String} {m : String} {conns : List (String × IBConn)}
    {es : List (String × ElemConn)} :
    elemConns ty ms m conns = .ok es ↔ All2 (fun pc pe => pe.1 = pc.1 ∧ elemConn ty ms m pc.2 = .ok pe.2) conns es := by
  simp only [elemConns_eq_mapM, mapM_ok_iff, map_snd_ok_iff]

theorem expandMembers_ok_iff {ty : String} {ms : List String} {conns : List (String × IBConn)} {l : List String}
    {r : List (String × List (String × ElemConn))} :
    expandMembers ty ms conns l = .ok r ↔ All2 (fun m me => me.1 = m ∧ elemConns ty ms m conns = .ok me.2) l r := by
  simp only [expandMembers_eq_mapM, mapM_ok_iff, map_snd_ok_iff]

theorem elemConn_of_mem {ty : String} {ms : List String} {m : String} {conns : List (String × IBConn)} {es : List (String × ElemConn)}
    (h : elemConns ty ms m conns = .ok es) (hnd : (conns.map (·.1)).Nodup) {p : String} {c : IBConn} {e : ElemConn}
    (hc : (p, c) ∈ conns) (he : (p, e) ∈ es) : elemConn ty ms m c = .ok e := by
  obtain ⟨pc, hpc, hk, hok⟩ := (elemConns_ok_iff.mp h).mem_right he
  cases eq_of_nodup_map hnd hpc hc hk.symm
  exact hok

end Hdl21.InstBundle
