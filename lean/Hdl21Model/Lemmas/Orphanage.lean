/-
# `Orphanage`: the recursive check against the flat list of owners, and what a checked connectable keeps after `erase`  — C02, C06

`checkConn` and `owners` (and `erase`, `sigObjs`, `sigsOK`) recurse the same way, so in most cases both sides of a statement unfold
to the recursive call and the case is the induction hypothesis.
-/
import Hdl21Model.Orphanage
namespace Hdl21.Orphanage
open Hdl21.Pkg

mutual
/-- the recursive check is "every object the connectable is made of is mine" -/
theorem checkConn_eq (me : Nat) : ∀ c : OConn, checkConn me c = (owners c).all (· == some me)
  | .sig _ _ _ | .bundle _ _ | .pref _ _ | .bref _ _ => (Bool.and_true _).symm
  | .noconn => rfl
  | .slice p _ => checkConn_eq me p
  | .concat ps => checkList_eq me ps
  | .anon fs => checkFields_eq me fs
theorem checkList_eq (me : Nat) : ∀ ps : List OConn, checkList me ps = (ownersList ps).all (· == some me)
  | [] => rfl
  | p :: ps => by
    show (checkConn me p && checkList me ps) = (owners p ++ ownersList ps).all _
    rw [List.all_append, checkConn_eq me p, checkList_eq me ps]
theorem checkFields_eq (me : Nat) : ∀ fs : List (String × OConn), checkFields me fs = (ownersFields fs).all (· == some me)
  | [] => rfl
  | (_, c) :: fs => by
    show (checkConn me c && checkFields me fs) = (owners c ++ ownersFields fs).all _
    rw [List.all_append, checkConn_eq me c, checkFields_eq me fs]
end

theorem checkConn_iff (me : Nat) (c : OConn) : checkConn me c = true ↔ ∀ o ∈ owners c, o = some me := by
  rw [checkConn_eq]; simp

mutual
/-- a checked connectable that survives resolution names only declared signals — given that what `me` owns is what it declares -/
theorem erase_sigsOK (me : Nat) (ws : List (String × Nat)) :
    ∀ (c : OConn) (s : SConn), (∀ n w, (n, w, some me) ∈ sigObjs c → lookup n ws = some w) →
      checkConn me c = true → erase c = some s → sigsOK ws s = true
  | .sig n w o, s, hc, hk, he => by
    cases he
    cases (beq_iff_eq.mp hk : o = some me)
    exact beq_iff_eq.mpr (hc n w List.mem_cons_self)
  | .slice p i, s, hc, hk, he => by
    obtain ⟨q, hq, rfl⟩ := Option.map_eq_some_iff.mp he
    exact erase_sigsOK me ws p q hc hk hq
  | .concat ps, s, hc, hk, he => by
    obtain ⟨qs, hq, rfl⟩ := Option.map_eq_some_iff.mp he
    exact eraseList_sigsOK me ws ps qs hc hk hq
  | .bundle _ _, _, _, _, he | .noconn, _, _, _, he | .pref _ _, _, _, _, he | .bref _ _, _, _, _, he
  | .anon _, _, _, _, he => nomatch he
theorem eraseList_sigsOK (me : Nat) (ws : List (String × Nat)) :
    ∀ (ps : List OConn) (qs : List SConn), (∀ n w, (n, w, some me) ∈ sigObjsList ps → lookup n ws = some w) →
      checkList me ps = true → eraseList ps = some qs → sigsOKList ws qs = true
  | [], qs, _, _, he => by cases he; rfl
  | p :: ps, qs, hc, hk, he => by
    rw [eraseList] at he
    split at he
    · rename_i q qs' h1 h2
      cases he
      obtain ⟨hk1, hk2⟩ := Bool.and_eq_true_iff.mp hk
      exact Bool.and_eq_true_iff.mpr
        ⟨erase_sigsOK me ws p q (fun n w h => hc n w (List.mem_append_left _ h)) hk1 h1,
         eraseList_sigsOK me ws ps qs' (fun n w h => hc n w (List.mem_append_right _ h)) hk2 h2⟩
    · cases he
end

end Hdl21.Orphanage
