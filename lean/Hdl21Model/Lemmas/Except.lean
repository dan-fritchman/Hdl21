/-
# Reading a `do` block in `Except` backwards

`simp only [Except.bind_eq_ok, Except.ok.injEq] at h` turns `h : (do let a ← x; let b ← g a; .ok (k a b)) = .ok r` into
`∃ a, x = .ok a ∧ ∃ b, g a = .ok b ∧ k a b = r`; forwards, `rw [hx, Except.ok_bind]` moves past a step whose result is known.
-/
namespace Hdl21

@[simp] theorem Except.ok_bind {ε α β : Type _} (a : α) (f : α → Except ε β) : (Except.ok a >>= f) = f a := rfl

theorem Except.bind_eq_ok {ε α β : Type _} {x : Except ε α} {f : α → Except ε β} {b : β} :
    x >>= f = .ok b ↔ ∃ a, x = .ok a ∧ f a = .ok b := by
  cases x <;> simp [bind, Except.bind]

theorem Except.bind_eq_error {ε α β : Type _} {x : Except ε α} {f : α → Except ε β} {e : ε} :
    x >>= f = .error e ↔ x = .error e ∨ ∃ a, x = .ok a ∧ f a = .error e := by
  cases x <;> simp [bind, Except.bind]

theorem Except.map_eq_ok {ε α β : Type _} {x : Except ε α} {f : α → β} {b : β} :
    f <$> x = .ok b ↔ ∃ a, x = .ok a ∧ f a = b := by
  cases x <;> simp [Functor.map, Except.map]

theorem Except.map_eq_error {ε α β : Type _} {x : Except ε α} {f : α → β} {e : ε} :
    f <$> x = .error e ↔ x = .error e := by
  cases x <;> simp [Functor.map, Except.map]

/-- a pass that only checks: the rest is reached exactly when the check holds -/
theorem guard_ok_iff {ε α : Type _} {b : Bool} {x : ε} {y : Except ε α} {a : α} :
    (if (!b) = true then .error x else y) = .ok a ↔ b = true ∧ y = .ok a := by
  cases b <;> simp

end Hdl21
