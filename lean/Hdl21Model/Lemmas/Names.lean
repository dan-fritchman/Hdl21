/-
`flatLoop` tries `name`, `name_`, `name__`, … with bounded fuel; with more fuel than names to avoid, and room for as many underscores,
it answers (pigeonhole).
-/
import Hdl21Model.Names
import Hdl21Model.Lemmas.List
namespace Hdl21.Names

theorem flatLoop_spec {avoid : List Name} {maxlen fuel : Nat} {name r : Name}
    (h : flatLoop avoid maxlen fuel name = some r) : r ∉ avoid ∧ r.length ≤ maxlen ∧
      ∃ k, r = name ++ List.replicate k '_' ∧ ∀ j < k, name ++ List.replicate j '_' ∈ avoid := by
  induction fuel generalizing name with
  | zero => cases h
  | succ fuel ih =>
    rw [flatLoop] at h
    split at h
    · cases h
    · split at h
      · rename_i hlen hin
        cases Option.some.inj h
        exact ⟨hin, Nat.le_of_not_gt hlen, 0, (List.append_nil _).symm, fun j hj => absurd hj (Nat.not_lt_zero j)⟩
      · rename_i hin
        obtain ⟨hfree, hlen, k, hk, hall⟩ := ih h
        refine ⟨hfree, hlen, k + 1, by rw [hk, List.replicate_succ]; simp, fun j hj => ?_⟩
        cases j with
        | zero => simpa using hin
        | succ j => simpa [List.replicate_succ] using hall j (Nat.lt_of_succ_lt_succ hj)

theorem flatLoop_none {avoid : List Name} {maxlen fuel : Nat} {name : Name} (h : flatLoop avoid maxlen fuel name = none) :
    ∀ i < fuel, name.length + i ≤ maxlen → name ++ List.replicate i '_' ∈ avoid := by
  induction fuel generalizing name with
  | zero => exact fun i hi => absurd hi (Nat.not_lt_zero i)
  | succ fuel ih =>
    intro i hi hl
    rw [flatLoop, if_neg (Nat.not_lt.mpr (Nat.le_trans (Nat.le_add_right _ i) hl))] at h
    split at h
    · cases h
    · rename_i hin
      cases i with
      | zero => simpa using hin
      | succ i =>
        simpa [List.replicate_succ] using
          ih h i (Nat.lt_of_succ_lt_succ hi) (by rw [List.length_append, List.length_singleton]; omega)

/-- The candidates are pairwise distinct, so one of the first `l.length + 1` is free, `l` holding those that are taken: it is the
    colliding names that use up the room, not the namespace (`l := avoid` always does). -/
theorem flatLoop_total {avoid l : List Name} {maxlen fuel : Nat} {name : Name}
    (hav : ∀ i, name ++ List.replicate i '_' ∈ avoid → name ++ List.replicate i '_' ∈ l)
    (hf : l.length < fuel) (hl : name.length + l.length ≤ maxlen) :
    ∃ r, flatLoop avoid maxlen fuel name = some r := by
  cases h : flatLoop avoid maxlen fuel name with
  | some r => exact ⟨r, rfl⟩
  | none =>
    obtain ⟨i, hi, hni⟩ := exists_not_mem_of_injective (fun i => name ++ List.replicate i '_')
      (fun i j e => by simpa using congrArg List.length e) l
    exact absurd (hav i (flatLoop_none h i (by omega) (by omega))) hni

end Hdl21.Names
