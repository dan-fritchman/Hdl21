/-
`seriesNet` in closed form: for every unit `k < n` the net of port `p` is a three-way case on `p`
(`seriesNet_of_lt`); every clause of C19 is a reading of it.
-/
import Hdl21Model.Builtin
namespace Hdl21.Builtin

variable {α : Type}

theorem firstBits_get (n : Nat) (f : α) (k : Nat) (hk : k < n) :
    (firstBits n f)[k]? = some (if k = 0 then Net.port f else Net.chain (k - 1)) := by
  unfold firstBits
  cases k with
  | zero => rfl
  | succ k =>
    rw [List.getElem?_cons_succ, List.getElem?_map, List.getElem?_range (by omega)]
    rfl

theorem secondBits_get (n : Nat) (s : α) (k : Nat) (hk : k < n) :
    (secondBits n s)[k]? = some (if k = n - 1 then Net.port s else Net.chain k) := by
  unfold secondBits
  by_cases hl : k = n - 1
  · rw [List.getElem?_append_right (by simp [hl])]
    simp [hl]
  · rw [if_neg hl, List.getElem?_append_left (by simp; omega), List.getElem?_map, List.getElem?_range (by omega)]
    rfl

variable [DecidableEq α]

theorem seriesNet_of_le {n k : Nat} (f s p : α) (h : n ≤ k) : seriesNet n f s k p = none :=
  if_pos h

theorem lt_of_seriesNet_eq_some {n k : Nat} {f s p : α} {x : Net α} (h : seriesNet n f s k p = some x) : k < n :=
  Nat.not_le.mp fun hle => by rw [seriesNet_of_le f s p hle] at h; cases h

/-- Also right for `n = 1`, where unit 0 is first and last at once. -/
theorem seriesNet_of_lt {n k : Nat} (f s p : α) (h : k < n) :
    seriesNet n f s k p = some
      (if p = f then (if k = 0 then .port f else .chain (k - 1))
       else if p = s then (if k = n - 1 then .port s else .chain k)
       else .port p) := by
  unfold seriesNet
  rw [if_neg (Nat.not_le.mpr h)]
  by_cases hf : p = f
  · rw [if_pos hf, if_pos hf, firstBits_get n f k h]
    by_cases h1 : n = 1
    · rw [if_pos h1, if_pos (by omega), hf]
    · rw [if_neg h1]
  · rw [if_neg hf, if_neg hf]
    by_cases hs : p = s
    · rw [if_pos hs, if_pos hs, secondBits_get n s k h]
      by_cases h1 : n = 1
      · rw [if_pos h1, if_pos (by omega), hs]
      · rw [if_neg h1]
    · rw [if_neg hs, if_neg hs, ite_self]

end Hdl21.Builtin
