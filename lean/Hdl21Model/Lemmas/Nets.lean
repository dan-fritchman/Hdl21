/-
# The net solver's union-find is union (Nets.lean: touch / join / joinAll)                       — the oracle of C01, C05, C16, C19

`Sem.src` and `Sem.pkg` are both computed by composing per-module atom classes with `join` / `joinAll`.  Over class lists that
are pairwise disjoint (`Disj`, an invariant): `join cs a b` identifies exactly what was identified plus `a`'s class with `b`'s;
`joinAll cs l` puts all atoms of `l` into one class, keeps what was together together, and identifies nothing beyond the
equivalence generated by the old classes and the list.
-/
import Hdl21Model.Nets
namespace Hdl21.Nets

theorem list_beq_refl (l : List String) : l.beq l = true := by
  induction l with
  | nil => rfl
  | cons a r ih => simp [List.beq, ih]

instance : LawfulBEq Atom where
  eq_of_beq {a b} h := by
    cases a; cases b
    simp only [BEq.beq] at h
    simp_all [instBEqAtom.beq]
  rfl {a} := by
    cases a
    simp only [BEq.beq, instBEqAtom.beq]
    simp [list_beq_refl]

def Same (cs : List (List Atom)) (x y : Atom) : Prop := ∃ c ∈ cs, x ∈ c ∧ y ∈ c

/-- the classes are pairwise disjoint (as a list: two entries at different positions share no atom) -/
def Disj : List (List Atom) → Prop
  | [] => True
  | c :: rest => (∀ d ∈ rest, ∀ x ∈ c, x ∉ d) ∧ Disj rest

/-- what `joinAll cs l` may identify (reflexivity on any atom, in a class or not) -/
inductive Gen (cs : List (List Atom)) (l : List Atom) : Atom → Atom → Prop
  | same {x y} : Same cs x y → Gen cs l x y
  | chain {x y} : x ∈ l → y ∈ l → Gen cs l x y
  | refl (x) : Gen cs l x x
  | symm {x y} : Gen cs l x y → Gen cs l y x
  | trans {x y z} : Gen cs l x y → Gen cs l y z → Gen cs l x z

variable {cs : List (List Atom)} {a b x y : Atom}

/-- `a` has a class: the test of `touch`, said as `Same cs a a` -/
theorem any_contains_iff : (cs.any fun c => c.contains a) = true ↔ Same cs a a := by
  simp [Same]

theorem same_cons {c : List Atom} : Same (c :: cs) x y ↔ (x ∈ c ∧ y ∈ c) ∨ Same cs x y := by
  simp only [Same, List.mem_cons, or_and_right, exists_or, exists_eq_left]

theorem same_touch : Same (touch cs a) x y ↔ Same cs x y ∨ (x = a ∧ y = a) := by
  unfold touch
  split
  · rename_i h
    obtain ⟨c, hc, hac, _⟩ := any_contains_iff.mp h
    exact ⟨.inl, fun h => h.elim id fun ⟨hx, hy⟩ => ⟨c, hc, hx ▸ hac, hy ▸ hac⟩⟩
  · rw [same_cons, List.mem_singleton, List.mem_singleton]
    exact or_comm

theorem disj_touch (hd : Disj cs) : Disj (touch cs a) := by
  unfold touch
  split
  · exact hd
  · rename_i h
    exact ⟨fun d hdm x hx hxd => h (any_contains_iff.mpr (List.mem_singleton.mp hx ▸ ⟨d, hdm, hxd, hxd⟩)), hd⟩

theorem findClass_of_mem (h : Same cs a a) : ∃ c, findClass cs a = some c ∧ c ∈ cs ∧ a ∈ c := by
  obtain ⟨c, hc, hac, _⟩ := h
  unfold findClass
  cases hf : cs.find? (fun c => c.contains a) with
  | none => exact absurd (List.contains_iff_mem.mpr hac) (List.find?_eq_none.mp hf c hc)
  | some c' =>
    have hac' : c'.contains a = true := List.find?_some (p := fun c : List Atom => c.contains a) hf
    exact ⟨c', rfl, List.mem_of_find?_eq_some hf, List.contains_iff_mem.mp hac'⟩

theorem disj_filter (p : List Atom → Bool) (hd : Disj cs) : Disj (cs.filter p) := by
  induction cs with
  | nil => trivial
  | cons c rest ih =>
    rw [List.filter_cons]
    split
    · exact ⟨fun d hdm x hx => hd.1 d (List.mem_filter.mp hdm).1 x hx, ih hd.2⟩
    · exact ih hd.2

theorem disj_eq (hd : Disj cs) {c d : List Atom} (hc : c ∈ cs) (hdm : d ∈ cs) (hxc : x ∈ c) (hxd : x ∈ d) : c = d := by
  induction cs with
  | nil => cases hc
  | cons e rest ih =>
    obtain ⟨h1, h2⟩ := hd
    rcases List.mem_cons.mp hc with e1 | hc' <;> rcases List.mem_cons.mp hdm with e2 | hd'
    · rw [e1, e2]
    · exact absurd hxd (h1 d hd' x (e1 ▸ hxc))
    · exact absurd hxc (h1 c hc' x (e2 ▸ hxd))
    · exact ih h2 hc' hd'

namespace Same

theorem symm : Same cs x y → Same cs y x := by
  rintro ⟨c, hc, hx, hy⟩
  exact ⟨c, hc, hy, hx⟩

theorem trans (hd : Disj cs) {z : Atom} : Same cs x y → Same cs y z → Same cs x z := by
  rintro ⟨c, hc, hx, hy⟩ ⟨d, hdm, hy', hz⟩
  exact ⟨c, hc, hx, disj_eq hd hc hdm hy hy' ▸ hz⟩

end Same

theorem same_iff_mem (hd : Disj cs) {c : List Atom} (hc : c ∈ cs) (ha : a ∈ c) (x : Atom) :
    Same cs x a ↔ x ∈ c := by
  constructor
  · rintro ⟨d, hdm, hx, ha'⟩
    exact disj_eq hd hdm hc ha' ha ▸ hx
  · exact fun hx => ⟨c, hc, hx, ha⟩

theorem same_iff_mem_left (hd : Disj cs) {c : List Atom} (hc : c ∈ cs) (ha : a ∈ c) (x : Atom) :
    Same cs a x ↔ x ∈ c :=
  ⟨fun h => (same_iff_mem hd hc ha x).mp h.symm, fun h => ((same_iff_mem hd hc ha x).mpr h).symm⟩

/-- The branch of `join` that merges: the classes of `a` and `b` become one and the rest is kept, so `Same` afterwards is `Same`
    before or a step across `a`, `b`. `keep` is any test that drops exactly those two classes: how `join` spells it is left to
    `join_spec`. -/
theorem merge_spec (hd : Disj cs) {ca cb : List Atom}
    (hca : ca ∈ cs) (ha : a ∈ ca) (hcb : cb ∈ cs) (hb : b ∈ cb)
    {keep : List Atom → Bool} (hk : ∀ c, keep c = true ↔ a ∉ c ∧ b ∉ c) :
    Disj ((ca ++ cb) :: cs.filter keep) ∧
    ∀ x y, Same ((ca ++ cb) :: cs.filter keep) x y ↔
      (Same cs x y ∨ (Same cs x a ∧ Same cs b y) ∨ (Same cs x b ∧ Same cs a y)) := by
  have hkeep : ∀ c, c ∈ cs.filter keep ↔ c ∈ cs ∧ a ∉ c ∧ b ∉ c := fun c => by rw [List.mem_filter, hk c]
  constructor
  · refine ⟨?_, disj_filter _ hd⟩
    intro d hdm x hx hxd
    obtain ⟨hdcs, hna, hnb⟩ := (hkeep d).mp hdm
    rcases List.mem_append.mp hx with hx | hx
    · exact hna (disj_eq hd hca hdcs hx hxd ▸ ha)
    · exact hnb (disj_eq hd hcb hdcs hx hxd ▸ hb)
  · intro x y
    rw [same_iff_mem hd hca ha x, same_iff_mem_left hd hcb hb y, same_iff_mem hd hcb hb x, same_iff_mem_left hd hca ha y]
    constructor
    · rintro ⟨c, hc, hxc, hyc⟩
      rcases List.mem_cons.mp hc with rfl | hc
      · rcases List.mem_append.mp hxc with hx | hx <;> rcases List.mem_append.mp hyc with hy | hy
        · exact Or.inl ⟨ca, hca, hx, hy⟩
        · exact Or.inr (Or.inl ⟨hx, hy⟩)
        · exact Or.inr (Or.inr ⟨hx, hy⟩)
        · exact Or.inl ⟨cb, hcb, hx, hy⟩
      · exact Or.inl ⟨c, ((hkeep c).mp hc).1, hxc, hyc⟩
    · rintro (⟨c, hc, hxc, hyc⟩ | ⟨hx, hy⟩ | ⟨hx, hy⟩)
      · by_cases hac : a ∈ c
        · rw [disj_eq hd hc hca hac ha] at hxc hyc
          exact ⟨_, List.mem_cons_self .., List.mem_append_left _ hxc, List.mem_append_left _ hyc⟩
        · by_cases hbc : b ∈ c
          · rw [disj_eq hd hc hcb hbc hb] at hxc hyc
            exact ⟨_, List.mem_cons_self .., List.mem_append_right _ hxc, List.mem_append_right _ hyc⟩
          · exact ⟨c, List.mem_cons_of_mem _ ((hkeep c).mpr ⟨hc, hac, hbc⟩), hxc, hyc⟩
      · exact ⟨_, List.mem_cons_self .., List.mem_append_left _ hx, List.mem_append_right _ hy⟩
      · exact ⟨_, List.mem_cons_self .., List.mem_append_right _ hx, List.mem_append_left _ hy⟩

theorem same_touch2 : Same (touch (touch cs a) b) x y ↔ Same cs x y ∨ (x = a ∧ y = a) ∨ (x = b ∧ y = b) := by
  rw [same_touch, same_touch, or_assoc]

theorem join_spec (cs : List (List Atom)) (a b : Atom) (hd : Disj cs) :
    Disj (join cs a b) ∧
    ∀ x y, Same (join cs a b) x y ↔
      (Same (touch (touch cs a) b) x y ∨ (Same (touch (touch cs a) b) x a ∧ Same (touch (touch cs a) b) b y) ∨
       (Same (touch (touch cs a) b) x b ∧ Same (touch (touch cs a) b) a y)) := by
  have hd2 : Disj (touch (touch cs a) b) := disj_touch (disj_touch hd)
  have ha2 : Same (touch (touch cs a) b) a a := same_touch2.mpr (.inr (.inl ⟨rfl, rfl⟩))
  have hb2 : Same (touch (touch cs a) b) b b := same_touch2.mpr (.inr (.inr ⟨rfl, rfl⟩))
  unfold join
  generalize touch (touch cs a) b = cs' at *
  obtain ⟨ca, hfa, hca, haca⟩ := findClass_of_mem ha2
  obtain ⟨cb, hfb, hcb, hbcb⟩ := findClass_of_mem hb2
  simp only [hfa, hfb]
  split
  · -- `a` and `b` already together: nothing changes, and the two extra disjuncts are already in `Same cs'`
    rename_i hab
    have sab : Same cs' a b := ⟨ca, hca, haca, List.contains_iff_mem.mp hab⟩
    refine ⟨hd2, fun x y => ⟨Or.inl, ?_⟩⟩
    rintro (s | ⟨h1, h2⟩ | ⟨h1, h2⟩)
    · exact s
    · exact (h1.trans hd2 sab).trans hd2 h2
    · exact (h1.trans hd2 sab.symm).trans hd2 h2
  · refine merge_spec hd2 hca haca hcb hbcb (fun c => ?_)
    simp only [List.contains_eq_mem, Bool.and_eq_true, Bool.not_eq_eq_eq_not, Bool.not_true, decide_eq_false_iff_not]

theorem same_join_mono (hd : Disj cs) (a b : Atom) (h : Same cs x y) : Same (join cs a b) x y :=
  ((join_spec cs a b hd).2 x y).mpr (.inl (same_touch2.mpr (.inl h)))

theorem same_join_ab (hd : Disj cs) (a b : Atom) : Same (join cs a b) a b :=
  ((join_spec cs a b hd).2 a b).mpr
    (.inr (.inl ⟨same_touch2.mpr (.inr (.inl ⟨rfl, rfl⟩)), same_touch2.mpr (.inr (.inr ⟨rfl, rfl⟩))⟩))

theorem same_join_gen (hd : Disj cs) {l : List Atom} (ha : a ∈ l) (hb : b ∈ l)
    (h : Same (join cs a b) x y) : Gen cs l x y := by
  -- the two touches add reflexivity only
  have inv2 : ∀ {p q}, Same (touch (touch cs a) b) p q → Gen cs l p q := fun hpq => by
    rcases same_touch2.mp hpq with h | ⟨rfl, rfl⟩ | ⟨rfl, rfl⟩
    · exact .same h
    · exact .refl _
    · exact .refl _
  rcases ((join_spec cs a b hd).2 x y).mp h with h' | ⟨h1, h2⟩ | ⟨h1, h2⟩
  · exact inv2 h'
  · exact .trans (inv2 h1) (.trans (.chain ha hb) (inv2 h2))
  · exact .trans (inv2 h1) (.trans (.chain hb ha) (inv2 h2))

theorem Gen.mono {cs' : List (List Atom)} {l l' : List Atom} (hs : ∀ u v, Same cs' u v → Gen cs l u v)
    (hl : ∀ u, u ∈ l' → u ∈ l) (g : Gen cs' l' x y) : Gen cs l x y := by
  induction g with
  | same h => exact hs _ _ h
  | chain hx hy => exact .chain (hl _ hx) (hl _ hy)
  | refl x => exact .refl x
  | symm _ ih => exact .symm ih
  | trans _ _ ih1 ih2 => exact .trans ih1 ih2

theorem joinAll_spec (l : List Atom) (cs : List (List Atom)) (hd : Disj cs) :
    Disj (joinAll cs l) ∧ (∀ x y, Same cs x y → Same (joinAll cs l) x y) ∧
    (∀ x ∈ l, ∀ y ∈ l, Same (joinAll cs l) x y) ∧
    (∀ x y, Same (joinAll cs l) x y → Gen cs l x y) := by
  -- along the recursion of `joinAll`; its equations make every goal syntactic
  induction cs, l using joinAll.induct with
  | case1 cs =>
    rw [joinAll.eq_1]
    exact ⟨hd, fun _ _ h => h, fun _ hx => (nomatch hx), fun _ _ h => .same h⟩
  | case2 cs a =>
    rw [joinAll.eq_2]
    refine ⟨disj_touch hd, fun _ _ h => same_touch.mpr (.inl h), fun x hx y hy => ?_, fun _ _ h => ?_⟩
    · exact same_touch.mpr (.inr ⟨List.mem_singleton.mp hx, List.mem_singleton.mp hy⟩)
    · rcases same_touch.mp h with h | ⟨rfl, rfl⟩
      · exact .same h
      · exact .refl _
  | case3 cs a b rest ih =>
    rw [joinAll.eq_3]
    obtain ⟨i1, i2, i3, i4⟩ := ih (join_spec cs a b hd).1
    -- everything in the list ends up with `b`
    have withb : ∀ x ∈ a :: b :: rest, Same (joinAll (join cs a b) (b :: rest)) x b := by
      intro x hx
      rcases List.mem_cons.mp hx with rfl | hx
      · exact i2 _ _ (same_join_ab hd _ b)
      · exact i3 x hx b (List.mem_cons_self ..)
    have ha : a ∈ a :: b :: rest := List.mem_cons_self ..
    have hb : b ∈ a :: b :: rest := List.mem_cons_of_mem _ (List.mem_cons_self ..)
    exact ⟨i1, fun _ _ h => i2 _ _ (same_join_mono hd a b h),
      fun x hx y hy => (withb x hx).trans i1 (withb y hy).symm,
      fun x y h => (i4 x y h).mono (fun _ _ => same_join_gen hd ha hb) (fun _ => List.mem_cons_of_mem _)⟩

end Hdl21.Nets
