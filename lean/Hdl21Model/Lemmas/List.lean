/-
# Facts about lists that the models' lemmas need and core does not state
-/
namespace Hdl21

theorem eq_of_nodup_map {α β : Type _} {f : α → β} {l : List α} (hn : (l.map f).Nodup) {x y : α}
    (hx : x ∈ l) (hy : y ∈ l) (h : f x = f y) : x = y := by
  induction l with
  | nil => cases hx
  | cons a r ih =>
    obtain ⟨hna, hnr⟩ := List.nodup_cons.mp hn
    rcases List.mem_cons.mp hx with rfl | hx' <;> rcases List.mem_cons.mp hy with rfl | hy'
    · rfl
    · exact absurd (List.mem_map.mpr ⟨y, hy', h.symm⟩) hna
    · exact absurd (List.mem_map.mpr ⟨x, hx', h⟩) hna
    · exact ih hnr hx' hy'

/-- a dict holds one value per key -/
theorem snd_eq_of_nodup_fst {α β : Type _} {l : List (α × β)} (hn : (l.map (·.1)).Nodup) {k : α} {v v' : β}
    (h : (k, v) ∈ l) (h' : (k, v') ∈ l) : v = v' :=
  (Prod.mk.inj (eq_of_nodup_map hn h h' rfl)).2

theorem nodup_append_singleton {α : Type _} {l : List α} {p : α} (h : l.Nodup) (hp : p ∉ l) : (l ++ [p]).Nodup :=
  List.nodup_append.mpr ⟨h, List.nodup_cons.mpr ⟨List.not_mem_nil, List.nodup_nil⟩, fun _ ha _ hb =>
    List.eq_of_mem_singleton hb ▸ fun e => hp (e ▸ ha)⟩

theorem find?_of_unique {α : Type _} {p : α → Bool} {l : List α} {e : α} (he : e ∈ l) (hp : p e = true)
    (hu : ∀ x ∈ l, p x = true → x = e) : l.find? p = some e := by
  induction l with
  | nil => cases he
  | cons a r ih =>
    by_cases ha : p a = true
    · rw [List.find?_cons_of_pos ha, hu a List.mem_cons_self ha]
    · rw [List.find?_cons_of_neg ha]
      exact ih ((List.mem_cons.mp he).resolve_left fun e' => ha (e' ▸ hp)) fun x hx => hu x (List.mem_cons_of_mem _ hx)

theorem find?_key_self {α κ : Type _} [BEq κ] [LawfulBEq κ] (key : α → κ) {l : List α} (hn : (l.map key).Nodup)
    {e : α} (he : e ∈ l) : l.find? (key · == key e) = some e :=
  find?_of_unique he BEq.rfl fun _ hx hk => eq_of_nodup_map hn hx he (eq_of_beq hk)

/-! The lookups of the models are `(l.find? (·.1 == k)).map (·.2)`, written so or as a recursion of their own (`find?_fst_of_eqns`). -/
section Assoc
variable {α β : Type _} [BEq α] [LawfulBEq α] {l : List (α × β)} {k : α} {v : β}

theorem mem_of_find?_fst (h : (l.find? (·.1 == k)).map (·.2) = some v) : (k, v) ∈ l := by
  obtain ⟨⟨a, b⟩, hf, rfl⟩ := Option.map_eq_some_iff.mp h
  cases eq_of_beq (List.find?_some (p := fun x : α × β => x.1 == k) hf)
  exact List.mem_of_find?_eq_some hf

theorem find?_fst_eq_none_iff : (l.find? (·.1 == k)).map (·.2) = none ↔ k ∉ l.map (·.1) := by
  rw [Option.map_eq_none_iff, List.find?_eq_none, List.mem_map]
  exact ⟨fun h ⟨x, hx, hk⟩ => h x hx (hk ▸ BEq.rfl), fun h x hx hk => h ⟨x, hx, eq_of_beq hk⟩⟩

theorem find?_fst_of_mem (hn : (l.map (·.1)).Nodup) (h : (k, v) ∈ l) : (l.find? (·.1 == k)).map (·.2) = some v := by
  rw [find?_key_self Prod.fst hn h]; rfl

theorem find?_fst_of_eqns [DecidableEq α] {f : List (α × β) → Option β} (nil : f [] = none)
    (cons : ∀ a b r, f ((a, b) :: r) = if a = k then some b else f r) (l : List (α × β)) :
    f l = (l.find? (·.1 == k)).map (·.2) := by
  induction l with
  | nil => exact nil
  | cons ab r ih =>
    rw [cons, ih]
    by_cases h : ab.1 = k
    · rw [if_pos h, List.find?_cons_of_pos (p := fun x : α × β => x.1 == k) (beq_iff_eq.mpr h)]; rfl
    · rw [if_neg h, List.find?_cons_of_neg (p := fun x : α × β => x.1 == k) fun e => h (eq_of_beq e)]

end Assoc

/-- a check of every element, written as its own recursion (the models' `fooList` beside each `foo` on connectables) -/
theorem all_of_eqns {α} {f : α → Bool} {fl : List α → Bool} (nil : fl [] = true) (cons : ∀ a l, fl (a :: l) = (f a && fl l))
    (l : List α) : fl l = true ↔ ∀ x ∈ l, f x = true := by
  induction l with
  | nil => rw [nil]; exact ⟨fun _ _ h => (nomatch h), fun _ => rfl⟩
  | cons a l ih => rw [cons, Bool.and_eq_true, ih, List.forall_mem_cons]

/-- Why a linear search over pairwise distinct candidates with more fuel than there are names to avoid succeeds (`flatname`'s
    underscores, `next_analysis_name`'s counter).  By induction on `n`, erasing the last candidate from the names. -/
theorem exists_not_mem_of_injective {α : Type} [DecidableEq α] (g : Nat → α) (hg : ∀ i j, g i = g j → i = j) (l : List α) :
    ∃ i, i ≤ l.length ∧ g i ∉ l := by
  generalize h : l.length = n
  induction n generalizing l with
  | zero => exact ⟨0, Nat.le_refl _, by rw [List.eq_nil_of_length_eq_zero h]; exact List.not_mem_nil⟩
  | succ n ih =>
    by_cases hin : g (n + 1) ∈ l
    · obtain ⟨i, hi, hni⟩ := ih (l.erase (g (n + 1))) (by rw [List.length_erase_of_mem hin, h]; rfl)
      refine ⟨i, Nat.le_succ_of_le hi, fun hil => hni ((List.mem_erase_of_ne fun e => ?_).mpr hil)⟩
      exact absurd (hg _ _ e) (Nat.ne_of_lt (Nat.lt_succ_of_le hi))
    · exact ⟨n + 1, Nat.le_refl _, hin⟩

theorem le_foldl_max {l : List Nat} {b x : Nat} (h : x ∈ l ∨ x ≤ b) : x ≤ l.foldl max b := by
  induction l generalizing b with
  | nil => exact h.resolve_left List.not_mem_nil
  | cons y ys ih =>
    refine ih ?_
    rcases h with h | h
    · rcases List.mem_cons.mp h with rfl | h
      · exact .inr (Nat.le_max_right ..)
      · exact .inl h
    · exact .inr (Nat.le_trans h (Nat.le_max_left ..))

end Hdl21
