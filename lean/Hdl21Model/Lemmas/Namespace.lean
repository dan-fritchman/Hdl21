/-
What `tryAdd` and `step` do, stated once: `tryAdd` is `addCore` under the guard `Addable` and the
identity otherwise; a `step` leaves the state alone, freezes it, is an `addCore` under a known name,
or (adoption elsewhere) rewrites `nameOf`/`parented` only.
-/
import Hdl21Model.Namespace
namespace Hdl21.NS

/-- The guard of `tryAdd`: what `_assert_addable` and the type check let through. -/
structure Addable (cfg : Cfg) (names : List String) (s : State) (o : Obj) (n : String) : Prop where
  notBanned : n ∉ cfg.banned
  notPriv : n ∉ cfg.priv
  kind : o.kind ∈ cfg.kinds
  live : s.frozen = false
  fresh : aliased names s o n = false

variable {cfg : Cfg} {names : List String} {s : State} {o : Obj} {n : String}

theorem tryAdd_of (h : Addable cfg names s o n) : tryAdd cfg names s o n = (addCore s o n, .ok) := by
  unfold tryAdd
  rw [if_neg h.notBanned, if_neg h.notPriv, if_neg (not_not_intro h.kind), h.live, h.fresh]
  rfl

theorem tryAdd_of_not (h : ¬ Addable cfg names s o n) : tryAdd cfg names s o n = (s, .reject) := by
  unfold tryAdd
  by_cases h1 : n ∈ cfg.banned
  · exact if_pos h1
  rw [if_neg h1]
  by_cases h2 : n ∈ cfg.priv
  · exact if_pos h2
  rw [if_neg h2]
  by_cases h3 : o.kind ∉ cfg.kinds
  · exact if_pos h3
  rw [if_neg h3]
  cases h4 : s.frozen
  case true => rfl
  cases h5 : aliased names s o n
  case true => rfl
  exact absurd ⟨h1, h2, Decidable.of_not_not h3, h4, h5⟩ h

theorem addCore_ns (s : State) (o : Obj) (n m : String) :
    (addCore s o n).ns m = if m = n then some o else s.ns m := rfl

theorem addCore_view (s : State) (o : Obj) (n : String) (k : Kind) (m : String) :
    (addCore s o n).view k m = if m = n then (if k = o.kind then some o else none) else s.view k m := rfl

theorem addCore_nameOf (s : State) (o : Obj) (n : String) (i : Nat) :
    (addCore s o n).nameOf i = if i = o.id then some n else s.nameOf i := rfl

theorem addCore_parented_self {s : State} {o : Obj} {n : String} : (addCore s o n).parented o.id = true := by
  simp only [addCore, if_true]

theorem addCore_parented_of_ne {i : Nat} (hi : i ≠ o.id) (hp : ∀ p, s.ns n = some p → p.id ≠ i) :
    (addCore s o n).parented i = s.parented i := by
  simp only [addCore, if_neg hi]
  cases hq : s.ns n with
  | none => rfl
  | some q =>
    simp only []
    split
    · rfl
    · exact if_neg (Ne.symm (hp q hq))

theorem addCore_ns_eq_some_iff {m : String} {p : Obj} :
    (addCore s o n).ns m = some p ↔ (m = n ∧ p = o) ∨ (m ≠ n ∧ s.ns m = some p) := by
  rw [addCore_ns]
  by_cases hm : m = n <;> simp [hm, eq_comm]

theorem not_aliased (h : aliased names s o n = false) :
    ∀ m p, m ∈ names → m ≠ n → s.ns m = some p → p.id ≠ o.id := by
  intro m p hm hne hp hid
  unfold aliased at h
  rw [List.any_eq_false] at h
  have := h m hm
  simp [hne, hp, hid] at this

theorem step_cases {P : State → Prop} (cfg : Cfg) (names : List String) (s : State) (op : Op)
    (same : P s) (freeze : P { s with frozen := true })
    (add : ∀ o n, n ∈ op.names ∨ s.nameOf o.id = some n → Addable cfg names s o n → P (addCore s o n))
    (adopted : op.local = false → ∀ (o : Obj) (k : String), P
      { s with nameOf := fun i => if i = o.id then some k else s.nameOf i
               parented := fun i => if i = o.id then false else s.parented i }) :
    P (step cfg names s op).1 := by
  have guarded : ∀ o n, n ∈ op.names ∨ s.nameOf o.id = some n → P (tryAdd cfg names s o n).1 := by
    intro o n hn
    by_cases h : Addable cfg names s o n
    · rw [tryAdd_of h]; exact add o n hn h
    · rw [tryAdd_of_not h]; exact same
  cases op with
  | setattr key v =>
    simp only [step]
    by_cases hk : key ∈ cfg.priv
    · rw [if_pos hk]; exact same
    · rw [if_neg hk]
      cases v with
      | other => exact same
      | hdl o => exact guarded o key (.inl (List.mem_singleton_self _))
  | add v name =>
    cases v with
    | other => exact same
    | hdl o =>
      simp only [step]
      cases name with
      | none =>
        cases hnm : s.nameOf o.id with
        | none => exact same
        | some n => exact guarded o n (.inr hnm)
      | some n =>
        cases hnm : s.nameOf o.id with
        | none => exact guarded o n (.inl (List.mem_singleton_self _))
        | some _ => exact same
  | getattr n =>
    simp only [step]
    by_cases hn : n ∈ cfg.native
    · rw [if_pos hn]; exact same
    · rw [if_neg hn]; cases s.ns n <;> exact same
  | get n | delattr n => exact same
  | elaborate => exact freeze
  | steal v k =>
    cases v with
    | other => exact same
    | hdl o => exact adopted rfl o k

end Hdl21.NS
