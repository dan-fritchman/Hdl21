/-
What the flat `run` does, case by case (it is the nested `runEv` on a body that calls nothing, `runEv_nil`); and what every nested
call leaves of the cache (`Keeps`, by one induction over the event tree).
-/
import Hdl21Model.GenRun
namespace Hdl21.GenRun

variable {s : Cache} {c : Call} {m : Mod}

theorem run_hit (h : lookup c s.done = some m) (body : Outcome) : run s c body = (s, .module m) := by
  rw [run.eq_def, h]

theorem run_pending (hn : lookup c s.done = none) (hp : c ∈ s.pending) (body : Outcome) : run s c body = (s, .circular) := by
  rw [run.eq_def, hn]; exact if_pos hp

theorem run_raises (hn : lookup c s.done = none) (hp : c ∉ s.pending) : run s c .raises = (s, .failed) := by
  rw [run.eq_def, hn]; exact if_neg hp

theorem run_ok (hn : lookup c s.done = none) (hp : c ∉ s.pending) (m : Mod) :
    run s c (.ok m) = ({ s with done := (c, m) :: s.done }, .module m) := by
  rw [run.eq_def, hn]; exact if_neg hp

/-- the cache changes only by filing a module the body returned -/
theorem run_fst (s : Cache) (c : Call) (body : Outcome) :
    (run s c body).1 = s ∨ ∃ m, run s c body = ({ s with done := (c, m) :: s.done }, .module m) := by
  cases hn : lookup c s.done with
  | some m => exact .inl (by rw [run_hit hn])
  | none =>
    by_cases hp : c ∈ s.pending
    · exact .inl (by rw [run_pending hn hp])
    · cases body with
      | raises => exact .inl (by rw [run_raises hn hp])
      | ok m => exact .inr ⟨m, run_ok hn hp m⟩

/-- a call whose body makes no calls of its own is the flat `run` -/
theorem runEv_nil (s : Cache) (c : Call) (catches : Bool) (out : Outcome) : runEv s (.call c [] catches out) = run s c out := by
  rw [runEv, run.eq_def, runBody]
  cases lookup c s.done with
  | some m => rfl
  | none =>
    dsimp only
    rw [List.erase_cons_head]
    rfl

theorem lookup_cons_ne {c c' : Call} {m : Mod} {l : List (Call × Mod)} (h : c' ≠ c) :
    lookup c ((c', m) :: l) = lookup c l := if_neg h

/-- the body goes on after a nested call that returned or whose failure it catches; otherwise it stops with that failure -/
theorem runBody_cons (s : Cache) (catches : Bool) (e : Ev) (r : List Ev) :
    runBody s catches (e :: r) = runBody (runEv s e).1 catches r ∨
      ((runEv s e).2 = .circular ∨ (runEv s e).2 = .failed) ∧ runBody s catches (e :: r) = ((runEv s e).1, some (runEv s e).2) := by
  rw [runBody]
  cases (runEv s e).2 with
  | module m => exact .inl rfl
  | circular =>
    cases catches
    · exact .inr ⟨.inl rfl, rfl⟩
    · exact .inl rfl
  | failed =>
    cases catches
    · exact .inr ⟨.inr rfl, rfl⟩
    · exact .inl rfl

/-- What a call — returning, failing, circular, with failures caught or not anywhere below it — leaves of the cache. -/
structure Keeps (s s' : Cache) : Prop where
  pending : s'.pending = s.pending
  stack : s'.stack = s.stack
  done_mono : ∀ x m, lookup x s.done = some m → lookup x s'.done = some m
  pending_done : ∀ x ∈ s.pending, lookup x s'.done = lookup x s.done

theorem Keeps.refl (s : Cache) : Keeps s s := ⟨rfl, rfl, fun _ _ h => h, fun _ _ => rfl⟩

theorem Keeps.trans {a b c : Cache} (h1 : Keeps a b) (h2 : Keeps b c) : Keeps a c :=
  ⟨h2.pending.trans h1.pending, h2.stack.trans h1.stack, fun x m h => h2.done_mono x m (h1.done_mono x m h),
   fun x hx => (h2.pending_done x (h1.pending ▸ hx)).trans (h1.pending_done x hx)⟩

mutual
theorem runEv_keeps (s : Cache) : ∀ e : Ev, Keeps s (runEv s e).1
  | .call c nested catches out => by
    unfold runEv
    cases hl : lookup c s.done with
    | some m => exact .refl s
    | none =>
      dsimp only
      split
      · exact .refl s
      · rename_i hc
        have ih := runBody_keeps { s with pending := c :: s.pending, stack := c :: s.stack } catches nested
        generalize runBody { s with pending := c :: s.pending, stack := c :: s.stack } catches nested = r at ih ⊢
        -- the body ran with `c` marked; the mark comes off again whatever happened
        have pop : Keeps s { r.1 with pending := r.1.pending.erase c, stack := r.1.stack.tail } :=
          ⟨by rw [ih.pending]; exact List.erase_cons_head .., by rw [ih.stack]; rfl, ih.done_mono,
           fun x hx => ih.pending_done x (List.mem_cons_of_mem _ hx)⟩
        split
        · exact pop
        · cases out with
          | raises => exact pop
          | ok m =>
            -- caching `c` disturbs no other key: `c` was neither cached nor pending
            exact ⟨pop.pending, pop.stack,
              fun x m' h => (lookup_cons_ne fun (e : c = x) => by rw [e, h] at hl; cases hl).trans (pop.done_mono x m' h),
              fun x hx => (lookup_cons_ne fun (e : c = x) => hc (e ▸ hx)).trans (pop.pending_done x hx)⟩
theorem runBody_keeps (s : Cache) (catches : Bool) : ∀ es : List Ev, Keeps s (runBody s catches es).1
  | [] => by rw [runBody]; exact .refl s
  | e :: r => by
    rcases runBody_cons s catches e r with h | ⟨_, h⟩ <;> rw [h]
    · exact (runEv_keeps s e).trans (runBody_keeps (runEv s e).1 catches r)
    · exact runEv_keeps s e
end

theorem runBody_frame (s : Cache) (catches : Bool) :
    ∀ es : List Ev, (runBody s catches es).1.pending = s.pending ∧ (runBody s catches es).1.stack = s.stack :=
  fun es => ⟨(runBody_keeps s catches es).pending, (runBody_keeps s catches es).stack⟩

theorem runEv_pending_done (s : Cache) (x : Call) (hx : x ∈ s.pending) :
    ∀ e : Ev, lookup x (runEv s e).1.done = lookup x s.done :=
  fun e => (runEv_keeps s e).pending_done x hx

theorem runBody_done_mono (s : Cache) (x : Call) (m : Mod) (hx : lookup x s.done = some m) (catches : Bool) :
    ∀ es : List Ev, lookup x (runBody s catches es).1.done = some m :=
  fun es => (runBody_keeps s catches es).done_mono x m hx

/-- what propagates out of a body is a failure, never a module -/
theorem runBody_some (s : Cache) (catches : Bool) : ∀ (es : List Ev) (f : Result),
    (runBody s catches es).2 = some f → f = .circular ∨ f = .failed := by
  intro es f
  induction es generalizing s with
  | nil => rw [runBody]; exact fun h => nomatch h
  | cons e r ih =>
    rcases runBody_cons s catches e r with h | ⟨hf, h⟩ <;> rw [h]
    · exact ih _
    · exact fun hs => Option.some.inj hs ▸ hf

theorem runEvs_keeps (s : Cache) : ∀ evs : List Ev, Keeps s (runEvs s evs)
  | [] => .refl s
  | e :: r => (runEv_keeps s e).trans (runEvs_keeps _ r)

/-- A call leaves its own key cached exactly when it returns a module. -/
theorem runEv_self (s : Cache) (c : Call) (nested : List Ev) (catches : Bool) (out : Outcome) (hp : c ∉ s.pending) :
    lookup c (runEv s (.call c nested catches out)).1.done =
      match (runEv s (.call c nested catches out)).2 with | .module m => some m | _ => none := by
  unfold runEv
  cases hl : lookup c s.done with
  | some m => exact hl
  | none =>
    rw [if_neg hp]
    -- nothing is cached for `c` while its body runs: it is pending
    have ih := (runBody_keeps { s with pending := c :: s.pending, stack := c :: s.stack } catches nested).pending_done c
      (List.mem_cons_self ..)
    have hs := runBody_some { s with pending := c :: s.pending, stack := c :: s.stack } catches nested
    generalize runBody { s with pending := c :: s.pending, stack := c :: s.stack } catches nested = r at ih hs ⊢
    obtain ⟨r1, f⟩ := r
    cases f with
    | some f => rcases hs f rfl with rfl | rfl <;> exact ih.trans hl
    | none =>
      cases out with
      | raises => exact ih.trans hl
      | ok m => exact if_pos rfl

mutual
theorem cyc_mono_anc {a b : List Call} (hab : ∀ x, x ∈ a → x ∈ b) : ∀ e : Ev, cyc a e = true → cyc b e = true
  | .call c nested _ _ => by
    rw [cyc, cyc, Bool.or_eq_true, Bool.or_eq_true, decide_eq_true_eq, decide_eq_true_eq]
    exact Or.imp (hab c) (cycL_mono_anc (fun _ hx => List.cons_subset_cons c (fun _ => hab _) hx) nested)
theorem cycL_mono_anc {a b : List Call} (hab : ∀ x, x ∈ a → x ∈ b) : ∀ es : List Ev, cycL a es = true → cycL b es = true
  | [] => by rw [cycL]; exact Bool.noConfusion
  | e :: r => by
    rw [cycL, cycL, Bool.or_eq_true, Bool.or_eq_true]
    exact Or.imp (cyc_mono_anc hab e) (cycL_mono_anc hab r)
end

mutual
/-- "circular dependency" is only ever reported for a call made from inside a call with the same key. -/
theorem runEv_circular (s : Cache) : ∀ e : Ev, (runEv s e).2 = .circular → cyc s.pending e = true
  | .call c nested catches out => by
    intro h
    rw [cyc, Bool.or_eq_true, decide_eq_true_eq]
    unfold runEv at h
    split at h
    · cases h                      -- answered from the cache: a module
    · split at h
      · exact .inl ‹_›             -- `c` is pending
      · dsimp only at h
        split at h
        · -- a failure of the body, propagated: it was circular inside, with `c` marked
          rename_i f hf
          cases h
          exact .inr (runBody_circular _ catches nested hf)
        · cases out <;> cases h    -- the body's own outcome: failed, or a module
theorem runBody_circular (s : Cache) (catches : Bool) :
    ∀ es : List Ev, (runBody s catches es).2 = some .circular → cycL s.pending es = true
  | [] => nofun
  | e :: r => by
    rw [cycL, Bool.or_eq_true]
    rcases runBody_cons s catches e r with h | ⟨_, h⟩ <;> rw [h]
    · exact fun hc => .inr ((runEv_keeps s e).pending ▸ runBody_circular (runEv s e).1 catches r hc)
    · exact fun hc => .inl (runEv_circular s e (Option.some.inj hc))
end

end Hdl21.GenRun
