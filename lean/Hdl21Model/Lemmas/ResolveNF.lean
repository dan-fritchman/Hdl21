/-
# What the SliceResolver returns is a fixed point of the SliceResolver                                        — C11 (C03)

`from_proto` hands the elaborator connections in the very form the exporter wrote; for `to_proto(from_proto(P)) = P` the
resolver must leave that form alone.  The form (`NF`): a signal, a slice taken directly from a signal that is *not* the whole of
it, or a non-empty concatenation of those.  `resolve_nf`: everything the resolver returns has it; `nf_fixed`: everything that has
it is returned unchanged.  `NF` is a stricter `exportable`, so `resolve_flat` is read off `resolve_nf`.
-/
import Hdl21Model.Lemmas.Resolve
namespace Hdl21

/-- a signal, or a slice of a signal that `_list_slice` would leave standing (in range, not "all of it, forwards") -/
def NFLeaf : SConn → Prop
  | .sig _ _ => True
  | .slice (.sig _ w) idx => ∃ inner, sliceInner w idx = .ok inner ∧ ¬ (inner.step > 0 ∧ inner.width.toNat = w)
  | _ => False

def NF (r : SConn) : Prop := NFLeaf r ∨ ∃ ps, r = .concat ps ∧ ps ≠ [] ∧ ∀ x ∈ ps, NFLeaf x

theorem NFLeaf.cases {r : SConn} (h : NFLeaf r) :
    (∃ n w, r = .sig n w) ∨ ∃ n w idx inner, r = .slice (.sig n w) idx ∧ sliceInner w idx = .ok inner ∧ ¬ inner.full w := by
  cases r with
  | sig n w => exact .inl ⟨n, w, rfl⟩
  | concat _ => exact h.elim
  | slice p idx =>
    cases p with
    | sig n w => obtain ⟨inner, hi, hnf⟩ := h; exact .inr ⟨n, w, idx, inner, rfl, hi, hnf⟩
    | slice _ _ => exact h.elim
    | concat _ => exact h.elim

theorem NFLeaf.parts_eq {r : SConn} (h : NFLeaf r) : r.parts = [r] := by
  rcases h.cases with ⟨n, w, rfl⟩ | ⟨n, w, idx, _, rfl, _⟩ <;> rfl

theorem NF.parts {r : SConn} (h : NF r) : (∀ x ∈ r.parts, NFLeaf x) ∧ r.parts ≠ [] := by
  rcases h with hl | ⟨ps, rfl, hne, hps⟩
  · rw [hl.parts_eq]; exact ⟨List.forall_mem_singleton.2 hl, List.cons_ne_nil _ _⟩
  · exact ⟨hps, hne⟩

theorem splice_nf (ls : List SConn) (h : ∀ x ∈ ls, NF x) : ∀ x ∈ splice ls, NFLeaf x := by
  intro x hx
  obtain ⟨y, hy, hxy⟩ := mem_splice.1 hx
  exact (h y hy).parts.1 x hxy

theorem splice_ne_nil : ∀ (ls : List SConn), (∀ x ∈ ls, NF x) → ls ≠ [] → splice ls ≠ []
  | [], _, hne => absurd rfl hne
  | c :: rest, h, _ => by
    rw [splice_cons]
    exact fun hnil => (h c List.mem_cons_self).parts.2 (List.append_eq_nil_iff.1 hnil).1

def ResolveNF (fuel : Nat) : Prop :=
  (∀ parent idx ls, listSlice fuel parent idx = .ok ls → ∀ x ∈ ls, NF x) ∧
  (∀ parent inner ls, consSlice fuel parent inner = .ok ls → ∀ x ∈ ls, NF x) ∧
  (∀ c r, resolveSliceable fuel c = .ok r → NF r) ∧
  (∀ ps rs, resolveParts fuel ps = .ok rs → (∀ x ∈ rs, NFLeaf x) ∧ (ps ≠ [] → rs ≠ []))

theorem resolve_nf : ∀ fuel, ResolveNF fuel :=
  resolve_induct
    (whole := fun _ _ _ ihr => List.forall_mem_singleton.2 ihr)
    -- the one place a slice node is made: directly on a signal, and only when it is not all of it
    (ofSig := fun hi hnf => List.forall_mem_singleton.2 (Or.inl ⟨_, hi, hnf⟩))
    (bitOfSlice := fun _ _ _ _ _ ih => ih)
    (bitOfConcat := fun _ _ _ _ ih => ih)
    (bits := fun _ _ _ _ ih => ih)
    (cons := fun ih1 ih2 => List.forall_mem_append.2 ⟨ih1, ih2⟩)
    (sig := Or.inl trivial)
    (sliceOne := fun ih => ih _ (List.mem_singleton_self _))
    (sliceMany := fun ih => Or.inr ⟨_, rfl, splice_ne_nil _ ih (List.cons_ne_nil _ _), splice_nf _ ih⟩)
    (concat := fun hne ih => Or.inr ⟨_, rfl, ih.2 hne, ih.1⟩)
    (nil := ⟨nofun, fun h => absurd rfl h⟩)
    (partsCons := fun ihr ihp => ⟨List.forall_mem_append.2 ⟨ihr.parts.1, ihp.1⟩,
      fun _ hnil => ihr.parts.2 (List.append_eq_nil_iff.1 hnil).1⟩)

theorem resolveSliceable_nf {fuel : Nat} {c r : SConn} (h : resolveSliceable fuel c = .ok r) : NF r :=
  (resolve_nf fuel).2.2.1 c r h

theorem NF.exportable {r : SConn} (h : NF r) : r.exportable = true := by
  have leaf : ∀ {x}, NFLeaf x → x.exportable = true := fun hx => by
    rcases hx.cases with ⟨n, w, rfl⟩ | ⟨n, w, idx, _, rfl, _⟩ <;> rfl
  rcases h with hl | ⟨ps, rfl, _, hps⟩
  · exact leaf hl
  · exact (exportableList_iff ps).2 fun x hx => leaf (hps x hx)

/-- Everything the resolver returns is `exportable`: signals, slices taken directly from signals, and concatenations of those. -/
def ResolveFlat (fuel : Nat) : Prop :=
  (∀ parent idx ls, listSlice fuel parent idx = .ok ls → ∀ x ∈ ls, x.exportable = true) ∧
  (∀ parent inner ls, consSlice fuel parent inner = .ok ls → ∀ x ∈ ls, x.exportable = true) ∧
  (∀ c r, resolveSliceable fuel c = .ok r → r.exportable = true) ∧
  (∀ ps rs, resolveParts fuel ps = .ok rs → ∀ x ∈ rs, x.exportable = true)

theorem resolve_flat : ∀ fuel, ResolveFlat fuel := fun fuel =>
  have ⟨hL, hC, hR, hP⟩ := resolve_nf fuel
  ⟨fun p i ls h x hx => (hL p i ls h x hx).exportable, fun p s ls h x hx => (hC p s ls h x hx).exportable,
    fun c r h => (hR c r h).exportable, fun ps rs h x hx => NF.exportable (.inl ((hP ps rs h).1 x hx))⟩

theorem resolveSliceable_exportable {fuel : Nat} {c r : SConn} (h : resolveSliceable fuel c = .ok r) : r.exportable = true :=
  (resolveSliceable_nf h).exportable

theorem nfLeaf_fixed (f : Nat) {r : SConn} (h : NFLeaf r) : resolveSliceable (f + 2) r = .ok r := by
  rcases h.cases with ⟨n, w, rfl⟩ | ⟨n, w, idx, inner, rfl, hi, hnf⟩
  · rfl
  · rw [resolveSliceable, listSlice, width_sig, Except.ok_bind, hi, Except.ok_bind, if_neg hnf]; rfl

/-- each element costs the loop one unit of fuel, and a leaf needs two of its own -/
theorem nfLeaf_fixed_parts (ps : List SConn) (f : Nat) (h : ∀ x ∈ ps, NFLeaf x) :
    resolveParts (f + ps.length + 1 + 2) ps = .ok ps := by
  induction ps with
  | nil => rw [resolveParts]
  | cons p ps ih =>
    have hp := h p List.mem_cons_self
    show resolveParts (f + ps.length + 1 + 2 + 1) (p :: ps) = _
    rw [resolveParts_cons, nfLeaf_fixed _ hp, Except.ok_bind, ih fun x hx => h x (List.mem_cons_of_mem _ hx), Except.ok_bind,
      hp.parts_eq]
    rfl

/-- **What the resolver returns, the resolver returns unchanged**, with any fuel from four more than it has parts -/
theorem nf_fixed_of_le {r : SConn} (h : NF r) {f : Nat} (hf : r.parts.length + 4 ≤ f) : resolveSliceable f r = .ok r := by
  obtain ⟨k, rfl⟩ := Nat.exists_eq_add_of_le' hf
  rcases h with hl | ⟨ps, rfl, hne, hps⟩
  · rw [hl.parts_eq]; exact nfLeaf_fixed (k + 3) hl
  · show resolveSliceable (k + ps.length + 1 + 2 + 1) (.concat ps) = _
    rw [resolveSliceable, if_neg (by rw [List.isEmpty_iff]; exact hne), nfLeaf_fixed_parts ps k hps]
    rfl

theorem nf_fixed (r : SConn) (h : NF r) : ∃ f, resolveSliceable f r = .ok r :=
  ⟨_, nf_fixed_of_le h (Nat.le_refl _)⟩

theorem nfLeafB_iff (r : SConn) : r.nfLeafB = true ↔ NFLeaf r := by
  cases r with
  | sig n w => exact ⟨fun _ => trivial, fun _ => rfl⟩
  | concat ps => exact ⟨nofun, False.elim⟩
  | slice p idx =>
    cases p with
    | slice _ _ => exact ⟨nofun, False.elim⟩
    | concat _ => exact ⟨nofun, False.elim⟩
    | sig n w =>
      simp only [SConn.nfLeafB, NFLeaf]
      cases sliceInner w idx with
      | error e => exact ⟨nofun, fun ⟨_, h, _⟩ => nomatch h⟩
      | ok inner => simp [Decidable.imp_iff_not_or]

theorem nf_iff_parts (r : SConn) : NF r ↔ r.parts ≠ [] ∧ ∀ x ∈ r.parts, NFLeaf x := by
  refine ⟨fun h => ⟨h.parts.2, h.parts.1⟩, fun ⟨hne, h⟩ => ?_⟩
  cases r with
  | concat ps => exact .inr ⟨ps, rfl, hne, h⟩
  | sig n w => exact .inl trivial
  | slice p idx => exact .inl (h _ (List.mem_singleton_self _))

/-- the Boolean the driver evaluates on what the real elaborator leaves is the `NF` of the theorems -/
theorem nfB_iff (r : SConn) : r.nfB = true ↔ NF r := by
  rw [show r.nfB = (!r.parts.isEmpty && r.parts.all SConn.nfLeafB) by cases r <;> simp [SConn.nfB, SConn.parts], nf_iff_parts]
  simp only [Bool.and_eq_true, Bool.not_eq_true', List.isEmpty_eq_false_iff, List.all_eq_true, nfLeafB_iff]

end Hdl21
