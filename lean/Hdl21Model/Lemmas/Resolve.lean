/-
# What the SliceResolver returns                                                                 — C03 (C01, C02, C06)

Two instances of `resolve_induct`: the result denotes the same bits (`resolve_sound`) and mentions only the signals it was given
(`resolve_keeps`).
-/
import Hdl21Model.Lemmas.ResolveInd
namespace Hdl21

theorem slice_denote_at {p : SConn} {idx : Index} {bs : List Bit} {pw : Nat} {inner : Inner}
    (hw : p.width = .ok pw) (hi : sliceInner pw idx = .ok inner) (h : (SConn.slice p idx).denote = .ok bs) :
    ∃ pbs, p.denote = .ok pbs ∧ pbs.length = pw ∧ pick pbs inner.bits = .ok bs := by
  obtain ⟨pbs, inner', hp, hi', hpick⟩ := denote_slice_ok_iff.1 h
  have hl : pbs.length = pw := by rw [width_eq_denote, hp] at hw; exact Except.ok.inj hw
  rw [hl, hi] at hi'; cases hi'
  exact ⟨pbs, hp, hl, hpick⟩

theorem pick_one {pw : Nat} {pbs bs : List Bit} {s : Inner} (wf : InnerWF pw s) (h1 : s.width = 1)
    (h : pick pbs s.bits = .ok bs) : ∃ b, bs = [b] ∧ pbs[s.bot.toNat]? = some b := by
  rw [bits_width_one wf h1] at h
  obtain ⟨b, r', _, hb, hr', rfl⟩ := pick_cons_spec h
  rw [pick_nil] at hr'; cases hr'
  exact ⟨b, rfl, hb⟩

/-- how `_list_slice` reaches through a slice of a slice -/
theorem slice_slice_bit {pp : SConn} {pidx : Index} {pbs : List Bit} {ppw : Nat} {pin : Inner} {j : Nat} {b : Bit}
    (hpd : (SConn.slice pp pidx).denote = .ok pbs) (hppw : pp.width = .ok ppw) (hpin : sliceInner ppw pidx = .ok pin)
    (hb : pbs[j]? = some b) : (SConn.slice pp (.int (pin.bitAt j))).denote = .ok [b] := by
  obtain ⟨ppbs, hppd, _, hppick⟩ := slice_denote_at hppw hpin hpd
  have hj : j < pin.width.toNat := by
    have := (List.getElem?_eq_some_iff.1 hb).1
    rw [pick_bits_length hppick] at this
    exact this
  obtain ⟨hk0, hget⟩ := pick_getElem hppick (bits_getElem pin j hj)
  exact slice_int_denote pp ppbs _ b hppd hk0 (by rw [← hget, hb])

/-- … and through a concatenation: bit `j` lies in the part `findPart` finds -/
theorem findPart_bit {parts : List SConn} {pbs : List Bit} {j : Nat} {b : Bit}
    (hpd : (SConn.concat parts).denote = .ok pbs) (hb : pbs[j]? = some b) :
    ∃ part off, findPart parts 0 j = .ok (part, off) ∧ part ∈ parts ∧ (SConn.slice part (.int off)).denote = .ok [b] := by
  obtain ⟨part, off, pb, hf, hmem, hpbd, hg⟩ := findPart_spec parts 0 j pbs hpd (List.getElem?_eq_some_iff.1 hb).1
  rw [Nat.zero_add] at hf
  rw [hb] at hg
  exact ⟨part, off, hf, hmem, slice_int_denote part pb off b hpbd (Int.natCast_nonneg _) (by simpa using hg)⟩

theorem denoteList_parts {c : SConn} {bs : List Bit} (h : c.denote = .ok bs) : denoteList c.parts = .ok bs := by
  cases c with
  | concat ps => exact h
  | sig n w => exact denoteList_singleton h
  | slice p i => exact denoteList_singleton h

theorem denoteList_splice : ∀ (ls : List SConn) (bs : List Bit), denoteList ls = .ok bs → denoteList (splice ls) = .ok bs
  | [], bs, h => h
  | x :: rest, bs, h => by
    obtain ⟨xa, rb, hx, hr, rfl⟩ := denoteList_cons_ok_iff.1 h
    rw [splice_cons]
    exact denoteList_append _ _ xa rb (denoteList_parts hx) (denoteList_splice rest rb hr)

theorem resolve_sound : ∀ fuel,
  (∀ parent idx ls, listSlice fuel parent idx = .ok ls →
      ∀ bs, (SConn.slice parent idx).denote = .ok bs → denoteList ls = .ok bs) ∧
  (∀ parent inner ls, consSlice fuel parent inner = .ok ls → ∀ pbs bs, parent.denote = .ok pbs →
      InnerWF pbs.length inner → 2 ≤ inner.width → pick pbs inner.bits = .ok bs → denoteList ls = .ok bs) ∧
  (∀ c r, resolveSliceable fuel c = .ok r → ∀ bs, c.denote = .ok bs → r.denote = .ok bs) ∧
  (∀ ps rs, resolveParts fuel ps = .ok rs → ∀ bs, denoteList ps = .ok bs → denoteList rs = .ok bs) := by
  refine resolve_induct ?whole ?ofSig ?bitOfSlice ?bitOfConcat ?bits ?cons ?sig ?sliceOne ?sliceMany ?concat ?nil ?partsCons
  case whole =>
    -- all bits, forwards: the parent itself
    intro parent idx pw inner r hw hi hfull hr bs hd
    obtain ⟨pbs, hpd, rfl, hpick⟩ := slice_denote_at hw hi hd
    rw [bits_full (sliceInner_wf hi) hfull.1 hfull.2, pick_all] at hpick
    rw [← Except.ok.inj hpick]
    exact denoteList_singleton (hr pbs hpd)
  case ofSig => intro n w idx inner _ _ bs hd; exact denoteList_singleton hd
  case bitOfSlice =>
    intro pp pidx idx pw inner ppw pin ls hw hi h1 hppw hpin ih bs hd
    obtain ⟨pbs, hpd, rfl, hpick⟩ := slice_denote_at hw hi hd
    obtain ⟨b, rfl, hb⟩ := pick_one (sliceInner_wf hi) h1 hpick
    have := slice_slice_bit hpd hppw hpin hb
    rw [Int.toNat_of_nonneg (sliceInner_wf hi).bounds.1] at this
    exact ih [b] this
  case bitOfConcat =>
    intro parts idx pw inner part off ls hw hi h1 hf ih bs hd
    obtain ⟨pbs, hpd, rfl, hpick⟩ := slice_denote_at hw hi hd
    obtain ⟨b, rfl, hb⟩ := pick_one (sliceInner_wf hi) h1 hpick
    obtain ⟨part', off', hf', _, hbit⟩ := findPart_bit hpd hb
    rw [hf] at hf'; cases hf'
    exact ih [b] hbit
  case bits =>
    intro parent idx pw inner ls hw hi _ h1 ih bs hd
    obtain ⟨pbs, hpd, rfl, hpick⟩ := slice_denote_at hw hi hd
    have wf := sliceInner_wf hi
    exact ih pbs bs hpd wf (by have := wf.width_pos; omega) hpick
  case cons =>
    -- first bit, then the rest: `tail_spec` says the rest is again a slice of the parent
    intro parent inner first rest ih1 ih2 pbs bs hpd wf h2 hpick
    obtain ⟨s', hs', hbits⟩ := tail_spec wf h2
    rw [hbits] at hpick
    obtain ⟨b, r', _, hb, hr', rfl⟩ := pick_cons_spec hpick
    exact denoteList_append first rest [b] r' (ih1 [b] (slice_int_denote parent pbs _ b hpd wf.first_ge hb))
      (ih2 r' (denote_slice_ok_iff.2 ⟨_, _, hpd, hs', hr'⟩))
  case sig => intro n w bs hd; exact hd
  case sliceOne =>
    intro p idx x ih bs hd
    obtain ⟨xb, _, hx, hnil, rfl⟩ := denoteList_cons_ok_iff.1 (ih bs hd)
    cases hnil
    rw [hx, List.append_nil]
  case sliceMany => intro p idx x y ls ih bs hd; exact denoteList_splice _ bs (ih bs hd)
  case concat => intro ps rs _ ih bs hd; exact ih bs hd
  case nil => intro bs hd; exact hd
  case partsCons =>
    intro p ps r rest ihr ihp bs hd
    obtain ⟨pa, pb, hpa, hpb, rfl⟩ := denoteList_cons_ok_iff.1 hd
    exact denoteList_append _ _ pa pb (denoteList_parts (ihr pa hpa)) (ihp pb hpb)

theorem resolveSliceable_sound {fuel : Nat} {c r : SConn} {bs : List Bit} (h : resolveSliceable fuel c = .ok r)
    (hd : c.denote = .ok bs) : r.denote = .ok bs :=
  (resolve_sound fuel).2.2.1 c r h bs hd

theorem parts_all {P : SConn → Prop} (hc : ∀ ps, P (.concat ps) → ∀ x ∈ ps, P x) {c : SConn} (h : P c) : ∀ x ∈ c.parts, P x := by
  cases c with
  | concat ps => exact hc ps h
  | sig n w => exact List.forall_mem_singleton.2 h
  | slice p i => exact List.forall_mem_singleton.2 h

theorem splice_all {P : SConn → Prop} (hc : ∀ ps, P (.concat ps) → ∀ x ∈ ps, P x)
    {ls : List SConn} (h : ∀ x ∈ ls, P x) : ∀ x ∈ splice ls, P x := by
  intro x hx
  obtain ⟨y, hy, hxy⟩ := mem_splice.1 hx
  exact parts_all hc (h y hy) x hxy

/-- A predicate that only looks at the signals at the leaves of a connectable. -/
structure LeafPred (P : SConn → Prop) : Prop where
  slice : ∀ p idx, P (.slice p idx) ↔ P p
  concat : ∀ ps, P (.concat ps) ↔ ∀ x ∈ ps, P x

def ResolveKeeps (P : SConn → Prop) (fuel : Nat) : Prop :=
  (∀ parent idx ls, listSlice fuel parent idx = .ok ls → P parent → ∀ x ∈ ls, P x) ∧
  (∀ parent inner ls, consSlice fuel parent inner = .ok ls → P parent → ∀ x ∈ ls, P x) ∧
  (∀ c r, resolveSliceable fuel c = .ok r → P c → P r) ∧
  (∀ ps rs, resolveParts fuel ps = .ok rs → (∀ x ∈ ps, P x) → ∀ x ∈ rs, P x)

/-- The resolver only re-arranges the signals it was given: every leaf predicate is preserved. -/
theorem resolve_keeps (P : SConn → Prop) (lp : LeafPred P) : ∀ fuel, ResolveKeeps P fuel :=
  resolve_induct
    (whole := fun _ _ _ ihr hP => List.forall_mem_singleton.2 (ihr hP))
    (ofSig := fun _ _ hP => List.forall_mem_singleton.2 ((lp.slice _ _).2 hP))
    (bitOfSlice := fun _ _ _ _ _ ih hP => ih ((lp.slice _ _).1 hP))
    (bitOfConcat := fun _ _ _ hf ih hP => ih ((lp.concat _).1 hP _ (findPart_mem hf)))
    (bits := fun _ _ _ _ ih => ih)
    (cons := fun ih1 ih2 hP => List.forall_mem_append.2 ⟨ih1 hP, ih2 hP⟩)
    (sig := id)
    (sliceOne := fun ih hP => ih ((lp.slice _ _).1 hP) _ (List.mem_singleton_self _))
    (sliceMany := fun ih hP => (lp.concat _).2 (splice_all (fun ps => (lp.concat ps).1) (ih ((lp.slice _ _).1 hP))))
    (concat := fun _ ih hP => (lp.concat _).2 (ih ((lp.concat _).1 hP)))
    (nil := fun _ _ h => nomatch h)
    (partsCons := fun ihr ihp hP => List.forall_mem_append.2 ⟨parts_all (fun ps => (lp.concat ps).1) (ihr (hP _ List.mem_cons_self)),
      ihp fun x hx => hP x (List.mem_cons_of_mem _ hx)⟩)

theorem resolveSliceable_keeps {P : SConn → Prop} (lp : LeafPred P) {fuel : Nat} {c r : SConn}
    (h : resolveSliceable fuel c = .ok r) (hP : P c) : P r :=
  (resolve_keeps P lp fuel).2.2.1 c r h hP

end Hdl21
