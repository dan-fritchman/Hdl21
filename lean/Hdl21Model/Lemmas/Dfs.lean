/-
# Depth-first group discovery computes connected components
  (the shape of hdl21/elab/passes/portrefs.py: `follow` — add the node, then follow each neighbour not yet in the group)

Generic in the node type.  `dfs` is fuel-bounded and answers `none` when the fuel runs out; everything is stated
for the runs that answer.
-/
import Hdl21Model.Lemmas.List
namespace Hdl21.Dfs

variable {α : Type} [DecidableEq α]

/-- `for q in neighbours: follow(q, group)`, for a given way `f` of following one -/
def dfsList (f : α → List α → Option (List α)) : List α → List α → Option (List α)
  | [], g => some g
  | q :: rest, g =>
    match f q g with
    | none => none
    | some g' => dfsList f rest g'

/-- `follow(p, group)` -/
def dfs (nbrs : α → List α) : Nat → α → List α → Option (List α)
  | 0, _, _ => none
  | fuel + 1, p, g => if p ∈ g then some g else dfsList (dfs nbrs fuel) (nbrs p) (g ++ [p])

inductive Reach (nbrs : α → List α) : α → α → Prop
  | refl (a : α) : Reach nbrs a a
  | step {a b c : α} : b ∈ nbrs a → Reach nbrs b c → Reach nbrs a c

omit [DecidableEq α] in
theorem Reach.trans {nbrs : α → List α} {a b c : α} (h1 : Reach nbrs a b) (h2 : Reach nbrs b c) : Reach nbrs a c := by
  induction h1 with
  | refl _ => exact h2
  | step hb _ ih => exact .step hb (ih h2)

omit [DecidableEq α] in
theorem Reach.single {nbrs : α → List α} {a b : α} (h : b ∈ nbrs a) : Reach nbrs a b := .step h (.refl b)

omit [DecidableEq α] in
/-- reachability is monotone in the neighbour function -/
theorem Reach.congr {nbrs nbrs' : α → List α} (h : ∀ a x, x ∈ nbrs a → x ∈ nbrs' a) {a b : α}
    (r : Reach nbrs a b) : Reach nbrs' a b := by
  induction r with
  | refl _ => exact .refl _
  | step hb _ ih => exact .step (h _ _ hb) ih

/-- A run from `p` took the group from `g` to `g'`. `closed` is claimed of the nodes this run added only: of what was in `g` before
    nothing is known, and started on `[]` it is closure outright (`dfs_component`). -/
structure Spec (nbrs : α → List α) (p : α) (g g' : List α) : Prop where
  mono : ∀ x, x ∈ g → x ∈ g'
  self : p ∈ g'
  sound : ∀ x, x ∈ g' → x ∈ g ∨ Reach nbrs p x
  closed : ∀ x, x ∈ g' → x ∉ g → ∀ y, y ∈ nbrs x → y ∈ g'

/-- the same of `dfsList` over `qs` -/
structure SpecList (nbrs : α → List α) (qs : List α) (g g' : List α) : Prop where
  mono : ∀ x, x ∈ g → x ∈ g'
  all : ∀ q, q ∈ qs → q ∈ g'
  sound : ∀ x, x ∈ g' → x ∈ g ∨ ∃ q, q ∈ qs ∧ Reach nbrs q x
  closed : ∀ x, x ∈ g' → x ∉ g → ∀ y, y ∈ nbrs x → y ∈ g'

/-- Induction along a run that answers: `M p g g'` is the claim for `dfs` from `p` taking the group from `g` to `g'`, `L qs g g'` the
    claim for `dfsList` over `qs`; one hypothesis per branch of the two functions, fuel in none of them. -/
theorem dfs_induct (nbrs : α → List α) {M : α → List α → List α → Prop} {L : List α → List α → List α → Prop}
    (seen : ∀ p g, p ∈ g → M p g g)
    (add : ∀ p g g', p ∉ g → L (nbrs p) (g ++ [p]) g' → M p g g')
    (nil : ∀ g, L [] g g)
    (cons : ∀ q rest g g₁ g', M q g g₁ → L rest g₁ g' → L (q :: rest) g g')
    (fuel : Nat) (p : α) (g g' : List α) (h : dfs nbrs fuel p g = some g') : M p g g' := by
  induction fuel generalizing p g g' with
  | zero => cases h
  | succ fuel ih =>
    have list : ∀ (qs : List α) (g g' : List α), dfsList (dfs nbrs fuel) qs g = some g' → L qs g g' := by
      intro qs
      induction qs with
      | nil => intro g g' h; cases h; exact nil g
      | cons q rest ihq =>
        intro g g' h
        rw [dfsList] at h
        split at h
        · cases h
        · rename_i g₁ hq
          exact cons q rest g g₁ g' (ih q g g₁ hq) (ihq g₁ g' h)
    rw [dfs] at h
    split at h
    · rename_i hp
      cases h; exact seen p g hp
    · rename_i hp
      exact add p g g' hp (list (nbrs p) (g ++ [p]) g' h)

theorem dfs_spec (nbrs : α → List α) (fuel : Nat) (p : α) (g g' : List α) (h : dfs nbrs fuel p g = some g') :
    Spec nbrs p g g' := by
  refine dfs_induct nbrs (L := SpecList nbrs) ?_ ?_ ?_ ?_ fuel p g g' h
  · exact fun p g hp => ⟨fun x hx => hx, hp, fun x hx => Or.inl hx, fun x hx hnx => absurd hx hnx⟩
  · intro p g g' hp hl
    refine ⟨fun x hx => hl.mono x (List.mem_append_left _ hx), hl.mono p (by simp), ?_, ?_⟩
    · intro x hx
      rcases hl.sound x hx with h1 | ⟨q, hq, hr⟩
      · rcases List.mem_append.mp h1 with h2 | h2
        · exact Or.inl h2
        · exact Or.inr (List.mem_singleton.mp h2 ▸ Reach.refl x)
      · exact Or.inr (.step hq hr)
    · intro x hx hnx y hy
      by_cases hxp : x = p
      · exact hl.all y (hxp ▸ hy)
      · exact hl.closed x hx (fun hm => (List.mem_append.mp hm).elim hnx fun h2 => hxp (List.mem_singleton.mp h2)) y hy
  · exact fun g => ⟨fun x hx => hx, (fun q hq => nomatch hq), fun x hx => Or.inl hx, fun x hx hnx => absurd hx hnx⟩
  · intro q rest g g₁ g' h1 h2
    refine ⟨fun x hx => h2.mono x (h1.mono x hx), ?_, ?_, ?_⟩
    · intro q' hq'
      rcases List.mem_cons.mp hq' with rfl | hr
      · exact h2.mono _ h1.self
      · exact h2.all q' hr
    · intro x hx
      rcases h2.sound x hx with hx1 | ⟨q', hq', hr⟩
      · rcases h1.sound x hx1 with hx0 | hr
        · exact Or.inl hx0
        · exact Or.inr ⟨q, List.mem_cons_self .., hr⟩
      · exact Or.inr ⟨q', List.mem_cons_of_mem _ hq', hr⟩
    · intro x hx hnx y hy
      by_cases hx1 : x ∈ g₁
      · exact h2.mono y (h1.closed x hx1 hnx y hy)
      · exact h2.closed x hx hx1 y hy

/-- **A group discovered from `p` on an empty start is exactly what is reachable from `p`.** -/
theorem dfs_component (nbrs : α → List α) (fuel : Nat) (p : α) (g : List α) (h : dfs nbrs fuel p [] = some g) :
    ∀ x, x ∈ g ↔ Reach nbrs p x := by
  have hs := dfs_spec nbrs fuel p [] g h
  -- started on the empty group, the answer is closed under neighbours, hence under reachability
  have closed : ∀ {u v : α}, Reach nbrs u v → u ∈ g → v ∈ g := by
    intro u v huv
    induction huv with
    | refl _ => exact id
    | step hn _ ih => exact fun hu => ih (hs.closed _ hu List.not_mem_nil _ hn)
  exact fun x => ⟨fun hx => (hs.sound x hx).resolve_left List.not_mem_nil, fun hr => closed hr hs.self⟩

/-- how many nodes of the universe `U` are not yet in the group -/
def unvisited (U g : List α) : Nat := (U.filter (fun x => !decide (x ∈ g))).length

theorem unvisited_mono (U : List α) {g g' : List α} (h : ∀ x, x ∈ g → x ∈ g') : unvisited U g' ≤ unvisited U g := by
  unfold unvisited
  rw [← List.countP_eq_length_filter, ← List.countP_eq_length_filter]
  refine List.countP_mono_left fun x _ hx => ?_
  simp only [Bool.not_eq_eq_eq_not, Bool.not_true, decide_eq_false_iff_not] at hx ⊢
  exact fun hg => hx (h x hg)

theorem unvisited_add (U : List α) (g : List α) (p : α) (hp : p ∈ U) (hg : p ∉ g) : unvisited U (g ++ [p]) < unvisited U g := by
  -- the nodes outside `g ++ [p]` are those outside `g` without `p`, and `p` was one of them
  have e : U.filter (fun x => !decide (x ∈ g ++ [p])) = (U.filter (fun x => !decide (x ∈ g))).filter (fun x => !decide (x = p)) := by
    rw [List.filter_filter]
    congr 1; funext x; simp [Bool.and_comm]
  rw [unvisited, e]
  refine Nat.lt_of_le_of_ne (List.length_filter_le _ _) fun hlen => ?_
  simpa using List.length_filter_eq_length_iff.mp hlen p (List.mem_filter.mpr ⟨hp, by simpa using hg⟩)

/-- **Group discovery always answers**, given fuel beyond the number of nodes it can still add. -/
theorem dfs_total (nbrs : α → List α) (U : List α) (hU : ∀ x, x ∈ U → ∀ y, y ∈ nbrs x → y ∈ U)
    (fuel : Nat) (p : α) (g : List α) (hp : p ∈ U) (hf : unvisited U g < fuel) : ∃ g', dfs nbrs fuel p g = some g' := by
  induction fuel generalizing p g with
  | zero => exact absurd hf (Nat.not_lt_zero _)
  | succ fuel ih =>
    -- following a list of nodes: the group only grows, so the fuel stays sufficient
    have fold : ∀ (qs : List α) (g : List α), (∀ q, q ∈ qs → q ∈ U) → unvisited U g < fuel →
        ∃ g', dfsList (dfs nbrs fuel) qs g = some g' := by
      intro qs
      induction qs with
      | nil => intro g _ _; exact ⟨g, rfl⟩
      | cons q rest ihq =>
        intro g hqs hf
        obtain ⟨g₁, hg₁⟩ := ih q g (hqs q (List.mem_cons_self ..)) hf
        have hf₁ := Nat.lt_of_le_of_lt (unvisited_mono U (dfs_spec nbrs fuel q g g₁ hg₁).mono) hf
        obtain ⟨g₂, hg₂⟩ := ihq g₁ (fun x hx => hqs x (List.mem_cons_of_mem _ hx)) hf₁
        exact ⟨g₂, by rw [dfsList, hg₁]; exact hg₂⟩
    rw [dfs]
    split
    · exact ⟨g, rfl⟩
    · rename_i hpg
      exact fold (nbrs p) (g ++ [p]) (hU p hp) (Nat.lt_of_lt_of_le (unvisited_add U g p hp hpg) (Nat.le_of_lt_succ hf))

theorem dfs_nodup (nbrs : α → List α) : ∀ (fuel : Nat) (p : α) (g g' : List α),
    dfs nbrs fuel p g = some g' → g.Nodup → g'.Nodup := by
  refine dfs_induct nbrs (L := fun _ g g' => g.Nodup → g'.Nodup) ?_ ?_ ?_ ?_
  · exact fun _ _ _ => id
  · exact fun _ _ _ hp hl hg => hl (nodup_append_singleton hg hp)
  · exact fun _ => id
  · exact fun _ _ _ _ _ h1 h2 hg => h2 (h1 hg)

/-- Two searches from one node whose neighbour lists have the same members, in whatever order and multiplicity, collect the same
    nodes, each once: the answer is the component, and a component is a set. -/
theorem dfs_perm {nbrs nbrs' : α → List α} (hn : ∀ a x, x ∈ nbrs a ↔ x ∈ nbrs' a) {fuel fuel' : Nat} {p : α} {g g' : List α}
    (h : dfs nbrs fuel p [] = some g) (h' : dfs nbrs' fuel' p [] = some g') : g.Perm g' := by
  rw [List.perm_ext_iff_of_nodup (dfs_nodup nbrs fuel p [] g h List.nodup_nil) (dfs_nodup nbrs' fuel' p [] g' h' List.nodup_nil)]
  intro x
  rw [dfs_component nbrs fuel p g h x, dfs_component nbrs' fuel' p g' h' x]
  exact ⟨Reach.congr fun a y => (hn a y).1, Reach.congr fun a y => (hn a y).2⟩

end Hdl21.Dfs
