/-
`has` and `hasFields` are read backwards once, constructor by constructor; `enc_inj` and `kind_mem` then never unfold them.
-/
import Hdl21Model.NameEnc
namespace Hdl21.NameEnc

theorem has_none {v : PV} (h : has .none v = true) : v = .none := by cases v <;> cases h; rfl
theorem has_bool {v : PV} (h : has .bool v = true) : ∃ x, v = .bool x := by cases v <;> cases h; exact ⟨_, rfl⟩
theorem has_int {v : PV} (h : has .int v = true) : ∃ x, v = .int x := by cases v <;> cases h; exact ⟨_, rfl⟩
theorem has_float {v : PV} (h : has .float v = true) : ∃ x, v = .float x := by cases v <;> cases h; exact ⟨_, rfl⟩
theorem has_str {v : PV} (h : has .str v = true) : ∃ x, v = .str x := by cases v <;> cases h; exact ⟨_, rfl⟩
theorem has_prefixed {v : PV} (h : has .prefixed v = true) : ∃ x, v = .prefixed x := by cases v <;> cases h; exact ⟨_, rfl⟩
theorem has_named {v : PV} (h : has .named v = true) : ∃ x, v = .named x := by cases v <;> cases h; exact ⟨_, rfl⟩
theorem has_enum {t : Ty} {v : PV} (h : has (.enum t) v = true) : ∃ x, v = .enum x ∧ has t x = true := by
  cases v with
  | enum x => exact ⟨x, rfl, h⟩
  | _ => cases h
theorem has_tuple {t : Ty} {v : PV} (h : has (.tuple t) v = true) : ∃ xs, v = .tuple xs ∧ xs.all (fun x => has t x) = true := by
  cases v with
  | tuple xs => exact ⟨xs, rfl, h⟩
  | _ => cases h
theorem has_pc {fs : List (String × Ty)} {v : PV} (h : has (.pc fs) v = true) : ∃ vs, v = .pc vs ∧ hasFields fs vs = true := by
  cases v with
  | pc vs => exact ⟨vs, rfl, h⟩
  | _ => cases h
theorem has_union {a b : Ty} {v : PV} (h : has (.union a b) v = true) : has a v = true ∨ has b v = true :=
  (Bool.or_eq_true _ _).mp h

theorem hasFields_nil {vs : List (String × PV)} (h : hasFields [] vs = true) : vs = [] := by
  cases vs with
  | nil => rfl
  | cons _ _ => cases h
theorem hasFields_cons {k : String} {t : Ty} {fs : List (String × Ty)} {vs : List (String × PV)}
    (h : hasFields ((k, t) :: fs) vs = true) : ∃ v rest, vs = (k, v) :: rest ∧ has t v = true ∧ hasFields fs rest = true := by
  cases vs with
  | nil => cases h
  | cons p rest =>
    have h' : (decide (k = p.1) && has t p.2 && hasFields fs rest) = true := h
    simp only [Bool.and_eq_true, decide_eq_true_eq] at h'
    exact ⟨p.2, rest, by rw [h'.1.1], h'.1.2, h'.2⟩

theorem kind_mem : ∀ (t : Ty) (v : PV), has t v = true → (enc v).kind ∈ t.kinds
  | .none, v, h => by obtain rfl := has_none h; exact .head _
  | .bool, v, h => by obtain ⟨_, rfl⟩ := has_bool h; exact .head _
  | .int, v, h => by obtain ⟨_, rfl⟩ := has_int h; exact .head _
  | .float, v, h => by obtain ⟨_, rfl⟩ := has_float h; exact .head _
  | .str, v, h => by obtain ⟨_, rfl⟩ := has_str h; exact .head _
  | .prefixed, v, h => by obtain ⟨_, rfl⟩ := has_prefixed h; exact .head _
  | .named, v, h => by obtain ⟨_, rfl⟩ := has_named h; exact .head _
  | .tuple t, v, h => by obtain ⟨_, rfl, _⟩ := has_tuple h; exact .head _
  | .pc fs, v, h => by obtain ⟨_, rfl, _⟩ := has_pc h; exact .head _
  | .enum t, v, h => by obtain ⟨x, rfl, hx⟩ := has_enum h; exact kind_mem t x hx
  | .union a b, v, h => List.mem_append.mpr ((has_union h).imp (kind_mem a v) (kind_mem b v))

theorem encList_inj (t : Ty) (ih : ∀ a b, has t a = true → has t b = true → enc a = enc b → a = b) (xs ys : List PV)
    (hx : xs.all (fun x => has t x) = true) (hy : ys.all (fun x => has t x) = true) (h : encList xs = encList ys) : xs = ys := by
  induction xs generalizing ys with
  | nil =>
    cases ys with
    | nil => rfl
    | cons _ _ => cases h
  | cons x xs ihx =>
    cases ys with
    | nil => cases h
    | cons y ys =>
      simp only [List.all_cons, Bool.and_eq_true] at hx hy
      obtain ⟨h1, h2⟩ := List.cons.inj h
      rw [ih x y hx.1 hy.1 h1, ihx ys hx.2 hy.2 h2]

mutual
theorem enc_inj : ∀ (t : Ty), t.wf = true → ∀ (a b : PV), has t a = true → has t b = true → enc a = enc b → a = b
  | .none, _, a, b, ha, hb, _ => by rw [has_none ha, has_none hb]
  | .bool, _, a, b, ha, hb, h => by
    obtain ⟨x, rfl⟩ := has_bool ha; obtain ⟨y, rfl⟩ := has_bool hb; exact congrArg _ (JV.bool.inj h)
  | .int, _, a, b, ha, hb, h => by
    obtain ⟨x, rfl⟩ := has_int ha; obtain ⟨y, rfl⟩ := has_int hb; exact congrArg _ (JV.int.inj h)
  | .float, _, a, b, ha, hb, h => by
    obtain ⟨x, rfl⟩ := has_float ha; obtain ⟨y, rfl⟩ := has_float hb; exact congrArg _ (JV.float.inj h)
  | .str, _, a, b, ha, hb, h => by
    obtain ⟨x, rfl⟩ := has_str ha; obtain ⟨y, rfl⟩ := has_str hb; exact congrArg _ (JV.str.inj h)
  | .prefixed, _, a, b, ha, hb, h => by
    obtain ⟨x, rfl⟩ := has_prefixed ha; obtain ⟨y, rfl⟩ := has_prefixed hb; exact congrArg _ (JV.str.inj h)
  | .named, _, a, b, ha, hb, h => by
    obtain ⟨x, rfl⟩ := has_named ha; obtain ⟨y, rfl⟩ := has_named hb; exact congrArg _ (JV.str.inj h)
  | .enum t, hw, a, b, ha, hb, h => by
    obtain ⟨x, rfl, hx⟩ := has_enum ha; obtain ⟨y, rfl, hy⟩ := has_enum hb
    exact congrArg _ (enc_inj t hw x y hx hy h)
  | .tuple t, hw, a, b, ha, hb, h => by
    obtain ⟨xs, rfl, hx⟩ := has_tuple ha; obtain ⟨ys, rfl, hy⟩ := has_tuple hb
    exact congrArg _ (encList_inj t (enc_inj t hw) xs ys hx hy (JV.arr.inj h))
  | .pc fs, hw, a, b, ha, hb, h => by
    obtain ⟨xs, rfl, hx⟩ := has_pc ha; obtain ⟨ys, rfl, hy⟩ := has_pc hb
    exact congrArg _ (encFields_inj fs hw xs ys hx hy (JV.obj.inj h))
  | .union t u, hw, a, b, ha, hb, h => by
    have hw' : (t.wf && u.wf && t.kinds.all (fun k => !u.kinds.contains k)) = true := hw
    simp only [Bool.and_eq_true] at hw'
    obtain ⟨⟨wt, wu⟩, hd⟩ := hw'
    -- values of the two alternatives have encodings of different kinds
    have clash : ∀ x y, has t x = true → has u y = true → enc x = enc y → False := by
      intro x y hx hy hxy
      have := List.all_eq_true.mp hd _ (hxy ▸ kind_mem t x hx)
      simp only [Bool.not_eq_true', List.contains_eq_mem, decide_eq_false_iff_not] at this
      exact this (kind_mem u y hy)
    rcases has_union ha with ha | ha <;> rcases has_union hb with hb | hb
    · exact enc_inj t wt a b ha hb h
    · exact (clash a b ha hb h).elim
    · exact (clash b a hb ha h.symm).elim
    · exact enc_inj u wu a b ha hb h
theorem encFields_inj : ∀ (fs : List (String × Ty)), wfFields fs = true → ∀ (xs ys : List (String × PV)),
    hasFields fs xs = true → hasFields fs ys = true → encFields xs = encFields ys → xs = ys
  | [], _, xs, ys, hx, hy, _ => by rw [hasFields_nil hx, hasFields_nil hy]
  | (k, t) :: fs, hw, xs, ys, hx, hy, h => by
    obtain ⟨vx, xs, rfl, hvx, hxs⟩ := hasFields_cons hx
    obtain ⟨vy, ys, rfl, hvy, hys⟩ := hasFields_cons hy
    have hw' : (t.wf && wfFields fs) = true := hw
    rw [Bool.and_eq_true] at hw'
    obtain ⟨h1, h2⟩ := List.cons.inj (show (k, enc vx) :: encFields xs = (k, enc vy) :: encFields ys from h)
    rw [enc_inj t hw'.1 vx vy hvx hvy (Prod.mk.inj h1).2, encFields_inj fs hw'.2 xs ys hxs hys h2]
end

end Hdl21.NameEnc
