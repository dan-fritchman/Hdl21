/-
# `pick`, `width`, `denote`: what the resolver proofs read them through                                    — C03 (C01)

`pick` is a `mapM` (`pick_eq_mapM`) and is read like every other loop, position by position (`pick_ok_iff`, through `mapM_ok_iff`).
`width_eq_denote`: the width is the length of the denotation, failures included.
-/
import Hdl21Model.Conn
import Hdl21Model.Lemmas.Slice
import Hdl21Model.Lemmas.MapM
import Hdl21Model.Lemmas.List
namespace Hdl21
open ModulePipe (All2)

theorem pick_nil {α} (bs : List α) : pick bs [] = .ok [] := rfl

/-- the step of `pick`'s loop -/
def pickAt {α} (bs : List α) (k : Int) : Except Err α :=
  if k < 0 then .error (.reject "negative bit") else
    match bs[k.toNat]? with
    | some b => .ok b
    | none => .error (.reject "bit out of range")

theorem pick_eq_mapM {α} (bs : List α) (ks : List Int) : pick bs ks = ks.mapM (pickAt bs) := rfl

theorem pickAt_ok_iff {α} {bs : List α} {k : Int} {b : α} : pickAt bs k = .ok b ↔ 0 ≤ k ∧ bs[k.toNat]? = some b := by
  unfold pickAt
  split
  · exact ⟨nofun, fun h => by omega⟩
  · cases bs[k.toNat]? with
    | none => exact ⟨nofun, fun h => nomatch h.2⟩
    | some b' => exact ⟨fun h => ⟨by omega, congrArg some (Except.ok.inj h)⟩, fun h => congrArg Except.ok (Option.some.inj h.2)⟩

theorem pick_ok_iff {α} {bs : List α} {ks : List Int} {r : List α} :
    pick bs ks = .ok r ↔ All2 (fun k b => 0 ≤ k ∧ bs[k.toNat]? = some b) ks r := by
  rw [pick_eq_mapM, mapM_ok_iff]; simp only [pickAt_ok_iff]

theorem pick_length {α} {bs : List α} {ks : List Int} {r : List α} (h : pick bs ks = .ok r) : r.length = ks.length :=
  (pick_ok_iff.1 h).length_eq.symm

theorem pick_getElem {α} {bs : List α} {ks : List Int} {r : List α} (h : pick bs ks = .ok r) {j : Nat} {k : Int}
    (hk : ks[j]? = some k) : 0 ≤ k ∧ r[j]? = bs[k.toNat]? :=
  let ⟨_, hb, h0, hg⟩ := (pick_ok_iff.1 h).getElem?.2 j k hk
  ⟨h0, hb.trans hg.symm⟩

theorem pick_cons_spec {α} {bs : List α} {k : Int} {ks : List Int} {r : List α} (h : pick bs (k :: ks) = .ok r) :
    ∃ b r', 0 ≤ k ∧ bs[k.toNat]? = some b ∧ pick bs ks = .ok r' ∧ r = b :: r' := by
  cases pick_ok_iff.1 h with
  | cons hb ht => exact ⟨_, _, hb.1, hb.2, pick_ok_iff.2 ht, rfl⟩

theorem pick_append {α} (bs : List α) (ks ls : List Int) (r s : List α)
    (h1 : pick bs ks = .ok r) (h2 : pick bs ls = .ok s) : pick bs (ks ++ ls) = .ok (r ++ s) :=
  pick_ok_iff.2 ((pick_ok_iff.1 h1).append (pick_ok_iff.1 h2))

theorem pick_total {α} {bs : List α} {ks : List Int} (h : ∀ k ∈ ks, 0 ≤ k ∧ k < bs.length) : ∃ r, pick bs ks = .ok r :=
  let ⟨r, hr⟩ := All2.exists (R := fun (k : Int) b => 0 ≤ k ∧ bs[k.toNat]? = some b) fun k hk =>
    ⟨bs[k.toNat]'(by have := h k hk; omega), (h k hk).1, List.getElem?_eq_getElem _⟩
  ⟨r, pick_ok_iff.2 hr⟩

theorem pick_run {α} (bs : List α) {lo n : Nat} (h : lo + n ≤ bs.length) :
    pick bs (arith lo 1 n) = .ok ((bs.drop lo).take n) := by
  refine pick_ok_iff.2 (.of_getElem? (by rw [arith_length, List.length_take, List.length_drop]; omega) fun j k b hk hb => ?_)
  have hj : j < n := by have := (List.getElem?_eq_some_iff.1 hk).1; rw [arith_length] at this; exact this
  rw [arith_getElem _ _ _ _ hj] at hk
  rw [List.getElem?_take, if_pos hj, List.getElem?_drop] at hb
  cases hk
  rw [Int.mul_one, ← Int.natCast_add, Int.toNat_natCast]
  exact ⟨Int.natCast_nonneg _, hb⟩

theorem pick_all {α} (bs : List α) : pick bs (arith 0 1 bs.length) = .ok bs := by
  have := pick_run bs (lo := 0) (n := bs.length) (by omega)
  rwa [List.drop_zero, List.take_length] at this

theorem denote_sig (n : String) (w : Nat) : (SConn.sig n w).denote = .ok (allBits n w) := by
  unfold SConn.denote; rfl

theorem denote_concat (ps : List SConn) : (SConn.concat ps).denote = denoteList ps := by
  rw [SConn.denote]

theorem denoteList_nil : denoteList [] = .ok [] := by rw [denoteList]

theorem denote_slice_ok_iff {p : SConn} {idx : Index} {bs : List Bit} :
    (SConn.slice p idx).denote = .ok bs ↔
      ∃ pbs inner, p.denote = .ok pbs ∧ sliceInner pbs.length idx = .ok inner ∧ pick pbs inner.bits = .ok bs := by
  rw [SConn.denote]
  simp only [Except.bind_eq_ok]
  exact ⟨fun ⟨pbs, hp, inner, hi, h⟩ => ⟨pbs, inner, hp, hi, h⟩, fun ⟨pbs, inner, hp, hi, h⟩ => ⟨pbs, hp, inner, hi, h⟩⟩

theorem denoteList_cons_ok_iff {p : SConn} {ps : List SConn} {bs : List Bit} :
    denoteList (p :: ps) = .ok bs ↔ ∃ a b, p.denote = .ok a ∧ denoteList ps = .ok b ∧ a ++ b = bs := by
  rw [denoteList]
  simp only [Except.bind_eq_ok, Except.ok.injEq]
  exact ⟨fun ⟨a, hp, b, hps, h⟩ => ⟨a, b, hp, hps, h⟩, fun ⟨a, b, hp, hps, h⟩ => ⟨a, hp, b, hps, h⟩⟩

theorem width_sig (n : String) (w : Nat) : (SConn.sig n w).width = .ok w := by rw [SConn.width]

theorem width_concat (ps : List SConn) : (SConn.concat ps).width = widthList ps := by rw [SConn.width]

theorem width_slice {p : SConn} {idx : Index} {pw : Nat} {inner : Inner} (hw : p.width = .ok pw)
    (hi : sliceInner pw idx = .ok inner) : (SConn.slice p idx).width = .ok inner.width.toNat := by
  rw [SConn.width, hw, Except.ok_bind, hi]; rfl

theorem widthList_nil : widthList [] = .ok 0 := by rw [widthList]

/-! The checks of every part of a concatenation, each written beside its check of one connectable. -/

theorem exportableList_iff (ps : List SConn) : SConn.exportable.exportableList ps = true ↔ ∀ x ∈ ps, x.exportable = true :=
  all_of_eqns rfl (fun _ _ => rfl) ps

theorem unitList_iff (ps : List SConn) : unitList ps = true ↔ ∀ x ∈ ps, x.unit = true :=
  all_of_eqns rfl (fun _ _ => rfl) ps

theorem noEmptyList_iff (ps : List SConn) : noEmptyList ps = true ↔ ∀ x ∈ ps, x.noEmpty = true :=
  all_of_eqns rfl (fun _ _ => rfl) ps

theorem allBits_length (n : String) (w : Nat) : (allBits n w).length = w := by simp [allBits]

theorem pick_bits_length {pbs bs : List Bit} {s : Inner} (h : pick pbs s.bits = .ok bs) : bs.length = s.width.toNat := by
  rw [pick_length h, bits_eq_arith, arith_length]

mutual
/-- **The width is the length of the denotation**, failures included: `width` fails exactly where `denote` does
    (`helpers/width.py:width` never looks at bits, `denote` never fails in `pick` once `_slice_inner` has accepted the index). -/
theorem width_eq_denote : (c : SConn) → c.width = List.length <$> c.denote
  | .sig n w => congrArg Except.ok (allBits_length n w).symm
  | .slice p idx => by
    rw [SConn.width, SConn.denote, width_eq_denote p]
    cases p.denote with
    | error e => rfl
    | ok bs =>
      show (sliceInner bs.length idx >>= fun inner => .ok inner.width.toNat)
        = List.length <$> (sliceInner bs.length idx >>= fun inner => pick bs inner.bits)
      cases hi : sliceInner bs.length idx with
      | error e => rfl
      | ok inner =>
        obtain ⟨r, hr⟩ := pick_total (sliceInner_wf hi).inrange
        show Except.ok _ = List.length <$> pick bs inner.bits
        rw [hr, ← pick_bits_length hr]; rfl
  | .concat ps => widthList_eq_denoteList ps
theorem widthList_eq_denoteList : (ps : List SConn) → widthList ps = List.length <$> denoteList ps
  | [] => rfl
  | p :: ps => by
    rw [widthList, denoteList, width_eq_denote p, widthList_eq_denoteList ps]
    cases p.denote with
    | error e => rfl
    | ok a => cases denoteList ps with
      | error e => rfl
      | ok b => exact congrArg Except.ok List.length_append.symm
end

theorem width_denote {c : SConn} {w : Nat} (h : c.width = .ok w) : ∃ bs, c.denote = .ok bs ∧ bs.length = w := by
  rw [width_eq_denote] at h; exact Except.map_eq_ok.1 h

theorem widthList_denote : (ps : List SConn) → ∀ w, widthList ps = .ok w →
    ∃ bs, denoteList ps = .ok bs ∧ bs.length = w := fun ps w h => by
  rw [widthList_eq_denoteList] at h; exact Except.map_eq_ok.1 h

theorem denote_width : (c : SConn) → ∀ bs, c.denote = .ok bs → c.width = .ok bs.length := fun c bs h => by
  rw [width_eq_denote, h]; rfl

theorem denoteList_width : (ps : List SConn) → ∀ bs, denoteList ps = .ok bs → widthList ps = .ok bs.length :=
  fun ps bs h => by rw [widthList_eq_denoteList, h]; rfl

theorem slice_int_denote (p : SConn) (pbs : List Bit) (k : Int) (b : Bit)
    (hd : p.denote = .ok pbs) (h0 : 0 ≤ k) (hb : pbs[k.toNat]? = some b) :
    (SConn.slice p (.int k)).denote = .ok [b] := by
  have hlt : k < pbs.length := by have := (List.getElem?_eq_some_iff.1 hb).1; omega
  have hi : sliceInner pbs.length (.int k) = .ok ⟨k + 1, k, 1, 1⟩ :=
    sliceInner_int_ok_iff.2 ⟨⟨by omega, hlt⟩, by rw [Int.emod_eq_of_lt h0 hlt]⟩
  rw [SConn.denote, hd, Except.ok_bind, hi, Except.ok_bind, bits_single]
  exact pick_ok_iff.2 (.cons ⟨h0, hb⟩ .nil)

theorem denote_slice_unit {c : SConn} {bs : List Bit} (hd : c.denote = .ok bs) {lo hi : Nat} (hlt : lo < hi)
    (hhi : hi ≤ bs.length) :
    (SConn.slice c (.range (some (lo : Int)) (some (hi : Int)) none)).denote = .ok ((bs.drop lo).take (hi - lo)) := by
  refine denote_slice_ok_iff.2 ⟨bs, _, hd, sliceInner_run bs.length lo hi hlt hhi, ?_⟩
  show pick bs (arith (lo : Int) 1 ((hi - lo : Nat) : Int).toNat) = _
  exact pick_run bs (by omega)

theorem denoteList_singleton {c : SConn} {bs : List Bit} (h : c.denote = .ok bs) : denoteList [c] = .ok bs :=
  denoteList_cons_ok_iff.2 ⟨bs, [], h, denoteList_nil, List.append_nil bs⟩

theorem denoteList_append (xs ys : List SConn) (a b : List Bit)
    (hx : denoteList xs = .ok a) (hy : denoteList ys = .ok b) : denoteList (xs ++ ys) = .ok (a ++ b) := by
  induction xs generalizing a with
  | nil => cases hx; exact hy
  | cons x xs ih =>
    obtain ⟨xa, xb, hxd, hxs, rfl⟩ := denoteList_cons_ok_iff.1 hx
    exact denoteList_cons_ok_iff.2 ⟨xa, xb ++ b, hxd, ih xb hxs, (List.append_assoc xa xb b).symm⟩

theorem bits_getElem (s : Inner) (j : Nat) (h : j < s.width.toNat) : s.bits[j]? = some (s.bitAt j) := by
  rw [bits_eq_arith, arith_getElem _ _ _ _ h]
  unfold Inner.first Inner.bitAt
  split <;> rfl

theorem findPart_mem {ps : List SConn} {idx k : Nat} {part : SConn} {off : Nat} (h : findPart ps idx k = .ok (part, off)) :
    part ∈ ps := by
  induction ps generalizing idx with
  | nil => cases h
  | cons p ps ih =>
    obtain ⟨w, _, h⟩ := Except.bind_eq_ok.1 h
    split at h
    · cases h; exact List.mem_cons_self
    · exact List.mem_cons_of_mem _ (ih h)

/-- bit `j` past the offset `idx` the loop starts with -/
theorem findPart_spec (ps : List SConn) (idx j : Nat) (bs : List Bit) (hd : denoteList ps = .ok bs) (hj : j < bs.length) :
    ∃ part off pb, findPart ps idx (idx + j) = .ok (part, off) ∧ part ∈ ps ∧ part.denote = .ok pb ∧ pb[off]? = bs[j]? := by
  induction ps generalizing idx j bs with
  | nil => cases hd; exact absurd hj (Nat.not_lt_zero _)
  | cons p ps ih =>
    obtain ⟨a, b, hp, hps, rfl⟩ := denoteList_cons_ok_iff.1 hd
    rw [findPart, denote_width p a hp, Except.ok_bind]
    by_cases hlt : j < a.length
    · exact ⟨p, _, a, if_pos (by omega), List.mem_cons_self, hp, by rw [Nat.add_sub_cancel_left, List.getElem?_append_left hlt]⟩
    · obtain ⟨i, rfl⟩ := Nat.exists_eq_add_of_le (Nat.le_of_not_lt hlt)
      rw [List.length_append] at hj
      obtain ⟨part, off, pb, hf, hm, hd', hg⟩ := ih (idx + a.length) i b hps (by omega)
      rw [if_neg (by omega), ← Nat.add_assoc]
      exact ⟨part, off, pb, hf, List.mem_cons_of_mem _ hm, hd',
        by rw [hg, List.getElem?_append_right (Nat.le_add_right _ _), Nat.add_sub_cancel_left]⟩

theorem findPart_total : ∀ (ps : List SConn) (idx k : Nat) (bs : List Bit), denoteList ps = .ok bs → idx ≤ k → k - idx < bs.length →
    ∃ part off, findPart ps idx k = .ok (part, off) := fun ps idx k bs hd hle hk => by
  obtain ⟨part, off, _, hf, _⟩ := findPart_spec ps idx (k - idx) bs hd hk
  rw [Nat.add_sub_cancel' hle] at hf
  exact ⟨part, off, hf⟩

end Hdl21
