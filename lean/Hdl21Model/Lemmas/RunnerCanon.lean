/-
# Canonical states: what a module looks like after `l` passes, whatever the history                     — C07

`C l x` is the state of module `x` after passes `0 … l-1`.  The one hypothesis about the concrete passes is
`Stable`: pass `k` applied to `x` in its state `C k x` returns `C (k+1) x`, *whatever* later state (`C l y`,
`l ≥ k+1`) the modules below `x` are in, and whatever any other module looks like.  (This is what
`_pre_flattening_io` and friends are for: a pass reads of an already-processed child only what later passes do not
change.)  Under it, every sequence of `elaborate` calls over any lists of tops leaves every module it ever
completed in the same state `C n x`.
-/
import Hdl21Model.Lemmas.Runner
namespace Hdl21.Runner

variable {S : Type}

/-- `x` has had exactly the passes `0 … l-1`, and is in the canonical state for that -/
def Lev (C : Nat → Nat → S) (st : RState S) (x l : Nat) : Prop :=
  (∀ j, st.done j x = true ↔ j < l) ∧ st.σ x = C l x

/-- what pass `k` may assume of the design when it runs on `x` -/
def Compatible (sys : Sys S) (C : Nat → Nat → S) (k x : Nat) (σ : Nat → S) : Prop :=
  σ x = C k x ∧ ∀ y, Reach sys x y → y ≠ x → ∃ l, k + 1 ≤ l ∧ σ y = C l y

def Stable (sys : Sys S) (C : Nat → Nat → S) (n : Nat) : Prop :=
  ∀ k x σ, k < n → Compatible sys C k x σ → sys.apply k σ x = some (C (k + 1) x)

/-- what every `elaborate` call keeps of the persistent state, under `Stable` (`elaborate_keeps`, `C07.after_keeps`) -/
structure Inv (sys : Sys S) (C : Nat → Nat → S) (n : Nat) (st : RState S) : Prop where
  nofail : ∀ x, st.failed x = false
  closed : ∀ k, DoneClosed sys k st
  lev : ∀ x, ∃ l, l ≤ n ∧ Lev C st x l

/-- the fresh state: nothing elaborated yet -/
def fresh (C : Nat → Nat → S) : RState S := { σ := C 0, done := fun _ _ => false, failed := fun _ => false }

theorem Inv.fresh (sys : Sys S) (C : Nat → Nat → S) (n : Nat) : Inv sys C n (fresh C) :=
  ⟨fun _ => rfl, fun _ _ h => (nomatch h), fun _ => ⟨0, Nat.zero_le n, fun _ => ⟨Bool.noConfusion, fun h => nomatch h⟩, rfl⟩⟩

/-- what a visit of pass `k` changes, module by module -/
def Step (sys : Sys S) (C : Nat → Nat → S) (k m : Nat) (st st' : RState S) : Prop :=
  ∀ x, (st'.σ x = st.σ x ∧ ∀ j, st'.done j x = st.done j x) ∨
       (Reach sys m x ∧ st.done k x = false ∧ Lev C st' x (k + 1))

theorem reach_trans (sys : Sys S) {a b c : Nat} (h1 : Reach sys a b) (h2 : Reach sys b c) : Reach sys a c := by
  induction h1 with
  | refl _ => exact h2
  | step m c' x hc _ ih => exact .step m c' c hc (ih h2)

/-- a step below `c` followed by a step below `c'`, both inside `m`, with pass-`k` marks only growing -/
theorem Step.trans {sys : Sys S} {C : Nat → Nat → S} {k m c c' : Nat} {a b d : RState S}
    (hcm : ∀ x, Reach sys c x → Reach sys m x) (hcm' : ∀ x, Reach sys c' x → Reach sys m x)
    (h1 : Step sys C k c a b) (h2 : Step sys C k c' b d) : Step sys C k m a d := by
  intro x
  rcases h2 x with ⟨hs, hd⟩ | ⟨hr, hnd, hl⟩
  · rcases h1 x with ⟨hs1, hd1⟩ | ⟨hr1, hnd1, hl1⟩
    · exact Or.inl ⟨by rw [hs, hs1], fun j => by rw [hd j, hd1 j]⟩
    · exact Or.inr ⟨hcm x hr1, hnd1, fun j => by rw [hd j]; exact hl1.1 j, by rw [hs]; exact hl1.2⟩
  · refine Or.inr ⟨hcm' x hr, ?_, hl⟩
    rcases h1 x with ⟨_, hd1⟩ | ⟨_, _, hl1⟩
    · rw [← hd1 k]; exact hnd
    · rw [(hl1.1 k).mpr (Nat.lt_succ_self k)] at hnd; cases hnd

/-- the closure invariants of all passes survive what visits of pass `k` do: the other passes' marks do not move -/
theorem Rel.closed_all {sys : Sys S} {k : Nat} {st st' : RState S} (h : Rel sys k st st') (hc : ∀ j, DoneClosed sys j st)
    (j : Nat) : DoneClosed sys j st' := by
  by_cases hj : j = k
  · exact hj ▸ h.closed (hj ▸ hc j)
  · exact fun x hx c hcx => (h.done_other j c hj).trans (hc j x ((h.done_other j x hj).symm.trans hx) c hcx)

theorem Lev.le_of_done {C : Nat → Nat → S} {st : RState S} {x l k : Nat} (hl : Lev C st x l)
    (h : ∀ j, j < k → st.done j x = true) : k ≤ l :=
  Nat.le_of_not_lt fun hlk => Nat.lt_irrefl l ((hl.1 l).mp (h l hlk))

variable {sys : Sys S} {C : Nat → Nat → S} {n k : Nat}

/-- **One module.** Pass `k` meets `x` at level `k` with everything below it done for `k`, hence (closure, invariant) at a later
    level: that is `Compatible`, so the pass returns `C (k+1) x` and `x` is at level `k + 1`. -/
theorem Inv.run1 (hst : Stable sys C n) (hk : k < n) {st : RState S} {x : Nat} (hi : Inv sys C n st)
    (hpre : ∀ j, j < k → st.done j x = true) (hnd : st.done k x = false) (hc : ∀ c ∈ sys.children x, st.done k c = true) :
    Inv sys C n (st.run1 sys k x) := by
  have hcl := (Rel.run1 (sys := sys) (hi.nofail x) hnd hc).closed_all hi.closed
  obtain ⟨l, _, hl⟩ := hi.lev x
  have hkl : ¬ k < l := fun h => by rw [(hl.1 k).mpr h] at hnd; cases hnd
  obtain rfl : l = k := Nat.le_antisymm (Nat.le_of_not_lt hkl) (hl.le_of_done hpre)
  have hcomp : Compatible sys C l x st.σ := by
    refine ⟨hl.2, fun y hy hne => ?_⟩
    cases hy with
    | refl => exact absurd rfl hne
    | step _ c _ hcx hcy =>
      obtain ⟨l', _, hl'⟩ := hi.lev y
      exact ⟨l', (hl'.1 l).mp ((hi.closed l).reach hcy (hc c hcx)), hl'.2⟩
  unfold RState.run1 at hcl ⊢
  rw [hst l x st.σ hk hcomp] at hcl ⊢
  refine ⟨hi.nofail, hcl, fun y => ?_⟩
  by_cases hyx : y = x
  · subst hyx
    refine ⟨l + 1, hk, fun j => ?_, if_pos rfl⟩
    by_cases hjl : j = l
    · subst hjl; exact ⟨fun _ => Nat.lt_succ_self j, fun _ => if_pos ⟨rfl, rfl⟩⟩
    · rw [show (st.ran l y (C (l + 1) y)).done j y = st.done j y from if_neg fun h => hjl h.1, hl.1 j]
      exact ⟨Nat.lt_succ_of_lt, fun h => Nat.lt_of_le_of_ne (Nat.le_of_lt_succ h) hjl⟩
  · obtain ⟨l', hl', hlev⟩ := hi.lev y
    refine ⟨l', hl', fun j => ?_, (if_neg hyx).trans hlev.2⟩
    rw [show (st.ran l x (C (l + 1) x)).done j y = st.done j y from if_neg fun h => hyx h.2]; exact hlev.1 j

theorem Run.inv (hst : Stable sys C n) (hk : k < n) {P : Nat → Prop} {st st' : RState S} (h : Run sys k P st st')
    (hi : Inv sys C n st) (hp : ∀ x, P x → ∀ j, j < k → st.done j x = true) : Inv sys C n st' := by
  induction h with
  | refl => exact hi
  | step x hrun hx _ hd hc ih => exact Inv.run1 hst hk ih (fun j hj => hrun.rel.done_mono j x (hp x hx j hj)) hd hc

/-- what `k` passes over `tops`, started from `st`, leave (`k` counts the passes completed) -/
structure Kept (sys : Sys S) (C : Nat → Nat → S) (n k : Nat) (tops : List Nat) (st : RState S) (r : RState S × Bool) : Prop where
  ok : r.2 = true
  inv : Inv sys C n r.1
  tops : ∀ t ∈ tops, ∀ j, j < k → r.1.done j t = true
  mono : ∀ j x, st.done j x = true → r.1.done j x = true

/-- Pass `k` over the tops, all earlier passes being done on them (hence, the marks being closed, below them): with fuel enough
    and no module failed it cannot have stopped short. -/
theorem foldVisit_keeps (hdag : ∀ m c, c ∈ sys.children m → c < m) (hst : Stable sys C n) (hk : k < n) {fuel : Nat} {ts : List Nat}
    {a : RState S} (hf : ∀ t ∈ ts, t < fuel) (hi : Inv sys C n a) (hp : ∀ t ∈ ts, ∀ j, j < k → a.done j t = true) :
    Kept sys C n (k + 1) ts a (foldVisit sys k fuel ts (a, true)) := by
  obtain ⟨hrun, hok, hstop⟩ := foldVisit_run (P := fun x => ∃ t ∈ ts, Reach sys t x) (visit_run sys hdag k fuel) ts a
    (fun t ht x hx => ⟨t, ht, hx⟩) rfl
  have hi' := hrun.inv hst hk hi fun x ⟨t, ht, hx⟩ j hj => (hi.closed j).reach hx (hp t ht j hj)
  have hmono := hrun.rel.done_mono
  have ok : (foldVisit sys k fuel ts (a, true)).2 = true := Bool.of_not_eq_false fun h => by
    obtain ⟨x, hx⟩ := hstop hf h
    rw [hi'.nofail x] at hx; cases hx
  refine ⟨ok, hi', fun t ht j hj => ?_, hmono⟩
  rcases Nat.lt_succ_iff_lt_or_eq.mp hj with h | rfl
  · exact hmono j t (hp t ht j h)
  · exact hok ok t ht

theorem elaborate_succ (sys : Sys S) (n fuel : Nat) (tops : List Nat) (st : RState S) :
    elaborate sys (n + 1) fuel tops st =
      if (elaborate sys n fuel tops st).2 then foldVisit sys n fuel tops (elaborate sys n fuel tops st)
      else elaborate sys n fuel tops st := by
  simp only [elaborate, List.range_succ, List.foldl_append]; rfl

theorem elaborate_keeps (hdag : ∀ m c, c ∈ sys.children m → c < m) (hst : Stable sys C n) {fuel : Nat} {tops : List Nat}
    (hf : ∀ t ∈ tops, t < fuel) {st : RState S} (hi : Inv sys C n st) (n' : Nat) (hn' : n' ≤ n) :
    Kept sys C n n' tops st (elaborate sys n' fuel tops st) := by
  induction n' with
  | zero => exact ⟨rfl, hi, fun t _ j hj => (nomatch hj), fun j x h => h⟩
  | succ k ih =>
    obtain ⟨ok, inv, top, mono⟩ := ih (Nat.le_of_succ_le hn')
    rw [elaborate_succ]
    generalize elaborate sys k fuel tops st = r at *
    obtain ⟨r1, b1⟩ := r
    obtain rfl : b1 = true := ok
    obtain ⟨ok2, inv2, top2, mono2⟩ := foldVisit_keeps hdag hst hn' hf inv top
    exact ⟨ok2, inv2, top2, fun j x h => mono2 j x (mono j x h)⟩

end Hdl21.Runner
