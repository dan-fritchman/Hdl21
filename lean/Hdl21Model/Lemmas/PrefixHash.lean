/-
CPython's `hash(Decimal)` depends on the value only: `expHash (e + k) ≡ 10^k · expHash e` modulo `2^61 - 1`, so moving a factor `10^k`
from the mantissa into the exponent leaves the hash as it is (`hash_shift`), and two representations of one value differ by such a move.
-/
import Hdl21Model.Lemmas.Prefix
import Mathlib.Data.Nat.ModEq

namespace Hdl21
open Dec

/-- `10^e mod P` for any integer `e`, as CPython computes it. -/
def expHash (e : ℤ) : ℕ := if e ≥ 0 then powMod (10 % hashP) e.toNat else powMod inv10 (-e).toNat

theorem ten_mul_inv10 : (10 * inv10) % hashP = 1 := by decide

theorem powMod_lt (b n : ℕ) : powMod b n < hashP ∨ n = 0 := by
  cases n with
  | zero => right; rfl
  | succ n => left; unfold powMod; exact Nat.mod_lt _ (by decide)

/-- at `0` both branches are `powMod _ 0 = 1` -/
theorem expHash_of_nonpos {e : ℤ} (h : e ≤ 0) : expHash e = powMod inv10 (-e).toNat := by
  unfold expHash
  split
  · rw [show e = 0 by omega]; rfl
  · rfl

theorem expHash_succ (e : ℤ) : expHash (e + 1) ≡ 10 * expHash e [MOD hashP] := by
  by_cases h : e ≥ 0
  · rw [expHash, expHash, if_pos h, if_pos (by omega), show (e + 1).toNat = e.toNat + 1 by omega, powMod,
      show 10 % hashP = 10 by decide, Nat.mul_comm]
    exact Nat.mod_modEq _ _
  · -- `x ≡ 10 · (x · 10⁻¹)`
    rw [expHash_of_nonpos (by omega), expHash_of_nonpos (by omega), show (-e).toNat = (-(e + 1)).toNat + 1 by omega, powMod]
    generalize powMod inv10 (-(e + 1)).toNat = x
    calc x = x * 1 := (Nat.mul_one x).symm
      _ ≡ x * (10 * inv10) [MOD hashP] := Nat.ModEq.mul_left x ten_mul_inv10.symm
      _ = 10 * (x * inv10) := Nat.mul_left_comm x 10 inv10
      _ ≡ 10 * ((x * inv10) % hashP) [MOD hashP] := Nat.ModEq.mul_left 10 (Nat.mod_modEq _ _).symm

theorem expHash_add (e : ℤ) (k : ℕ) : expHash (e + k) ≡ 10 ^ k * expHash e [MOD hashP] := by
  induction k with
  | zero => rw [Nat.cast_zero, add_zero, pow_zero, one_mul]
  | succ k ih =>
    rw [Nat.cast_succ, ← add_assoc, pow_succ, Nat.mul_comm (10 ^ k) 10, Nat.mul_assoc]
    exact (expHash_succ _).trans (Nat.ModEq.mul_left 10 ih)

theorem hash_eq_expHash (d : Dec) :
    d.hash = (let h : ℤ := ((d.c.natAbs * expHash d.e) % hashP : ℕ)
              let ans := if d.c ≥ 0 then h else -h
              if ans = -1 then -2 else ans) := by
  unfold Dec.hash expHash; rfl

theorem hash_shift (c e : ℤ) (k : ℕ) :
    Dec.hash ⟨c * 10 ^ k, e⟩ = Dec.hash ⟨c, e + k⟩ := by
  rw [hash_eq_expHash, hash_eq_expHash]
  simp only []
  have hsign : (c * 10 ^ k ≥ 0) ↔ (c ≥ 0) := mul_nonneg_iff_of_pos_right (pow_pos (by decide) k)
  have habs : (c * 10 ^ k).natAbs = c.natAbs * 10 ^ k := by
    rw [Int.natAbs_mul, Int.natAbs_pow]; rfl
  have hmod : (c * 10 ^ k).natAbs * expHash e % hashP = c.natAbs * expHash (e + k) % hashP := by
    rw [habs, Nat.mul_assoc]
    exact (Nat.ModEq.mul_left _ (expHash_add e k)).symm
  rw [hmod]
  by_cases hc : c ≥ 0
  · rw [if_pos (hsign.2 hc), if_pos hc]
  · rw [if_neg (fun h => hc (hsign.1 h)), if_neg hc]

theorem hash_congr (a b : Dec) (h : a.val = b.val) : a.hash = b.hash := by
  have key : ∀ x y : Dec, x.e ≤ y.e → x.val = y.val → x.hash = y.hash := by
    intro ⟨xc, xe⟩ ⟨yc, ye⟩ hle hv
    have hc : xc = _ := Dec.c_eq_of_val_eq hle hv
    have := hash_shift yc xe (ye - xe).toNat
    rwa [← hc, Int.toNat_of_nonneg (Int.sub_nonneg.2 hle), add_sub_cancel] at this
  rcases le_total a.e b.e with hle | hle
  · exact key a b hle h
  · exact (key b a hle h.symm).symm

end Hdl21
