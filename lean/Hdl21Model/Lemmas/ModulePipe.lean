/-
# The module pipeline, stage by stage                                                              — C01, C02, C06, C11

Each stage is inverted once (`…_ok_iff`); the two checking passes say `InstChecked` of every instance (`checks_iff`) and resolution
keeps it, which is why the repeats pass: `elabModule_spec`, and with the exporter `pipeline_spec`, say exactly when and with what one
module is answered; `elabModule_accepts_iff` / `pipeline_accepts_iff` add that the resolver and the exporter do answer.
From `elemSConns_eq_mapM` on: instance arrays (`expandArr_spec`: what one array expands to; `flattenArrays_spec`).
-/
import Hdl21Model.ModulePipe
import Hdl21Model.Lemmas.ConnTypes
import Hdl21Model.Lemmas.ExportWF
import Hdl21Model.Lemmas.ArrayPass
import Hdl21Model.Lemmas.ResolveTotal
import Hdl21Model.Lemmas.ResolveNF
import Hdl21Model.Lemmas.ResolveUnit
namespace Hdl21.ModulePipe
open Hdl21.Pkg Hdl21.RoundTrip Hdl21.ExportWF

/-- `pr` is `pc` resolved: same port, the connection through `resolveSliceable` -/
def ResRel (fuel : Nat) (pc pr : String × SConn) : Prop := pr.1 = pc.1 ∧ resolveSliceable fuel pc.2 = .ok pr.2

/-- `r` is `i` with every connection resolved -/
def ResInstRel (fuel : Nat) (i r : HInst) : Prop :=
  r.name = i.name ∧ r.ref = i.ref ∧ r.params = i.params ∧ All2 (ResRel fuel) i.conns r.conns

theorem mkHInst_ok_iff {ε} {x : Except ε (List (String × SConn))} {n : String} {rf : PRef} {ps : List (String × String)} {r : HInst} :
    (fun cs => (⟨n, rf, ps, cs⟩ : HInst)) <$> x = .ok r ↔ r.name = n ∧ r.ref = rf ∧ r.params = ps ∧ x = .ok r.conns := by
  cases r
  cases x <;> simp [Functor.map, Except.map, eq_comm]

theorem resolveConns_eq_mapM (fuel : Nat) (cs : List (String × SConn)) :
    resolveConns fuel cs = List.mapM (fun pc => (fun r => (pc.1, r)) <$> resolveSliceable fuel pc.2) cs := by
  induction cs with
  | nil => rfl
  | cons pc rest ih =>
    rw [resolveConns, List.mapM_cons, ih]
    cases resolveSliceable fuel pc.2 <;> cases (List.mapM _ rest : Except _ _) <;> rfl

theorem resolveInsts_eq_mapM (fuel : Nat) (is : List HInst) : resolveInsts fuel is =
    List.mapM (fun i => (fun cs => (⟨i.name, i.ref, i.params, cs⟩ : HInst)) <$> resolveConns fuel i.conns) is := by
  induction is with
  | nil => rfl
  | cons i rest ih =>
    rw [resolveInsts, List.mapM_cons, ih]
    cases resolveConns fuel i.conns <;> cases (List.mapM _ rest : Except _ _) <;> rfl

theorem resolveConns_ok_iff {fuel : Nat} {cs rs : List (String × SConn)} : resolveConns fuel cs = .ok rs ↔ All2 (ResRel fuel) cs rs := by
  simp only [resolveConns_eq_mapM, mapM_ok_iff, map_snd_ok_iff]; rfl

theorem resolveInsts_ok_iff {fuel : Nat} {is rs : List HInst} : resolveInsts fuel is = .ok rs ↔ All2 (ResInstRel fuel) is rs := by
  simp only [resolveInsts_eq_mapM, mapM_ok_iff, mkHInst_ok_iff, resolveConns_ok_iff]; rfl

theorem resInst_total {fuel : Nat} {i : HInst} (h : ∀ pc ∈ i.conns, ∃ r, resolveSliceable fuel pc.2 = .ok r) :
    ∃ r, ResInstRel fuel i r := by
  obtain ⟨cs, hcs⟩ := All2.exists (R := ResRel fuel) fun pc hpc => let ⟨r, hr⟩ := h pc hpc; ⟨(pc.1, r), rfl, hr⟩
  exact ⟨⟨i.name, i.ref, i.params, cs⟩, rfl, rfl, rfl, hcs⟩

theorem elabModule_ok_iff {fuel : Nat} {ctx : PRef → Option (List (String × Nat))} {h e : HModule} :
    elabModule fuel ctx h = .ok e ↔
      orphanage h = true ∧ connTypes ctx h = true ∧ sliceResolver fuel h = .ok e ∧ connTypes ctx e = true ∧ orphanage e = true := by
  unfold elabModule
  simp only [guard_ok_iff]
  cases sliceResolver fuel h with
  | error x => simp
  | ok e' =>
    simp only [guard_ok_iff, Except.ok.injEq]
    constructor
    · rintro ⟨ho, hc, hc', ho', rfl⟩; exact ⟨ho, hc, rfl, hc', ho'⟩
    · rintro ⟨ho, hc, rfl, hc', ho'⟩; exact ⟨ho, hc, hc', ho', rfl⟩

theorem elabModule_inv {fuel : Nat} {ctx : PRef → Option (List (String × Nat))} {h e : HModule}
    (he : elabModule fuel ctx h = .ok e) :
    orphanage h = true ∧ connTypes ctx h = true ∧ sliceResolver fuel h = .ok e ∧ connTypes ctx e = true ∧ orphanage e = true :=
  elabModule_ok_iff.mp he

theorem sliceResolver_ok_iff {fuel : Nat} {h e : HModule} : sliceResolver fuel h = .ok e ↔
    ∃ is, All2 (ResInstRel fuel) h.instances is ∧ e = ⟨h.name, h.signals, h.ports, is⟩ := by
  have hmap : sliceResolver fuel h = (fun is => (⟨h.name, h.signals, h.ports, is⟩ : HModule)) <$> resolveInsts fuel h.instances := by
    unfold sliceResolver
    cases resolveInsts fuel h.instances <;> rfl
  rw [hmap, Except.map_eq_ok]
  exact exists_congr fun is => and_congr resolveInsts_ok_iff eq_comm

theorem pipeline_ok_iff {fuel : Nat} {ctx : PRef → Option (List (String × Nat))} {h : HModule} {p : PModule} :
    pipeline fuel ctx h = .ok p ↔ ∃ e, elabModule fuel ctx h = .ok e ∧ exportModule e = .ok p := by
  unfold pipeline
  cases elabModule fuel ctx h <;> simp

theorem pipelineA_ok_iff {fuel : Nat} {ctx : PRef → Option (List (String × Nat))} {nm : String → Nat → String} {arrs : List HArr}
    {h : HModule} {p : PModule} : pipelineA fuel ctx nm arrs h = .ok p ↔
    (∀ a ∈ arrs, ∀ pc ∈ a.conns, sigsOK (sigList h) pc.2 = true) ∧ orphanage h = true ∧ connTypes ctx h = true ∧
      ∃ h', flattenArrays ctx nm arrs.reverse h = .ok h' ∧ pipeline fuel ctx h' = .ok p := by
  unfold pipelineA
  simp only [guard_ok_iff, List.all_eq_true]
  cases flattenArrays ctx nm arrs.reverse h <;> simp

/-- One check read two ways: walking the target's ports (`ConnTypes.passes_eq_true_iff`, C02's `InstWF`) or walking the instance's
    connections (`InstChecked`, the model's `instOK`). For two dicts they say the same. -/
theorem ports_iff_conns {io : List (String × Nat)} {conns : List (String × SConn)} (hio : (io.map (·.1)).Nodup)
    (hc : (conns.map (·.1)).Nodup) :
    ((∀ pw ∈ io, ∃ c, (pw.1, c) ∈ conns ∧ c.width = .ok pw.2) ∧ ∀ kc ∈ conns, kc.1 ∈ io.map (·.1)) ↔
      (∀ kc ∈ conns, ∃ w, lookup kc.1 io = some w ∧ kc.2.width = .ok w) ∧ ∀ pw ∈ io, pw.1 ∈ conns.map (·.1) := by
  constructor
  · rintro ⟨hall, hex⟩
    refine ⟨fun kc hkc => ?_, fun pw hpw => ?_⟩
    · obtain ⟨pw, hpw, hpn⟩ := List.mem_map.mp (hex kc hkc)
      obtain ⟨c, hcm, hw⟩ := hall pw hpw
      have : kc.2 = c := snd_eq_of_nodup_fst hc (k := pw.1) (by rw [hpn]; exact hkc) hcm
      exact ⟨pw.2, hpn ▸ lookup_of_mem hio hpw, this ▸ hw⟩
    · obtain ⟨c, hcm, _⟩ := hall pw hpw
      exact List.mem_map.mpr ⟨_, hcm, rfl⟩
  · rintro ⟨hall, hcov⟩
    refine ⟨fun pw hpw => ?_, fun kc hkc => ?_⟩
    · obtain ⟨kc, hkc, hk⟩ := List.mem_map.mp (hcov pw hpw)
      obtain ⟨w, hl, hw⟩ := hall kc hkc
      rw [hk, lookup_of_mem hio hpw] at hl
      cases hl
      exact ⟨kc.2, hk ▸ hkc, hw⟩
    · obtain ⟨w, hl, _⟩ := hall kc hkc
      exact mem_keys_of_lookup hl

theorem passes_iff_conns {io : List (String × Nat)} {conns : List (String × SConn)} (hio : (io.map (·.1)).Nodup)
    (hc : (conns.map (·.1)).Nodup) :
    ConnTypes.passes io conns = true ↔
      (∀ kc ∈ conns, ∃ w, lookup kc.1 io = some w ∧ kc.2.width = .ok w) ∧ ∀ pw ∈ io, pw.1 ∈ conns.map (·.1) :=
  (ConnTypes.passes_eq_true_iff io conns hio hc).trans (ports_iff_conns hio hc)

theorem orphanage_inst {h : HModule} : orphanage h = true ↔ ∀ i ∈ h.instances, ∀ pc ∈ i.conns, sigsOK (sigList h) pc.2 = true := by
  simp only [orphanage, List.all_eq_true]

theorem connTypes_inst {ctx : PRef → Option (List (String × Nat))} {h : HModule} :
    connTypes ctx h = true ↔ ∀ i ∈ h.instances, ∃ ports, ctx i.ref = some ports ∧ ConnTypes.passes ports i.conns = true := by
  simp only [connTypes, List.all_eq_true]
  refine forall₂_congr fun i _ => ?_
  cases ctx i.ref <;> simp

theorem ModOK.names_nodup {ctx : PRef → Option (List (String × Nat))} {h : HModule} (hm : ModOK ctx h) :
    ((h.signals ++ h.ports).map (·.name)).Nodup := hm.1

theorem ModOK.widths_pos {ctx : PRef → Option (List (String × Nat))} {h : HModule} (hm : ModOK ctx h) :
    ∀ s ∈ h.signals ++ h.ports, 0 < s.width := hm.2.1

theorem ModOK.ports_directed {ctx : PRef → Option (List (String × Nat))} {h : HModule} (hm : ModOK ctx h) :
    (h.ports.all fun s => (s.dir.bind (lookupS · exportDirMap)).isSome) = true := hm.2.2.1

theorem ModOK.inst_names_nodup {ctx : PRef → Option (List (String × Nat))} {h : HModule} (hm : ModOK ctx h) :
    (h.instances.map (·.name)).Nodup := hm.2.2.2.1

theorem ModOK.conn_names_nodup {ctx : PRef → Option (List (String × Nat))} {h : HModule} (hm : ModOK ctx h) :
    ∀ i ∈ h.instances, (i.conns.map (·.1)).Nodup := hm.2.2.2.2.1

theorem ModOK.target_ports_nodup {ctx : PRef → Option (List (String × Nat))} {h : HModule} (hm : ModOK ctx h) :
    ∀ r ports, ctx r = some ports → (ports.map (·.1)).Nodup := hm.2.2.2.2.2

theorem checks_iff {ctx : PRef → Option (List (String × Nat))} {h : HModule} (hm : ModOK ctx h) :
    orphanage h = true ∧ connTypes ctx h = true ↔ ∀ i ∈ h.instances, InstChecked ctx (sigList h) i := by
  rw [orphanage_inst, connTypes_inst]
  constructor
  · rintro ⟨ho, hc⟩ i hi
    obtain ⟨ports, hx, hpass⟩ := hc i hi
    obtain ⟨hall, hcov⟩ := (passes_iff_conns (hm.target_ports_nodup _ _ hx) (hm.conn_names_nodup i hi)).mp hpass
    exact ⟨ports, hx, fun pc hpc => ⟨ho i hi pc hpc, hall pc hpc⟩, hcov⟩
  · intro hall
    refine ⟨fun i hi pc hpc => ?_, fun i hi => ?_⟩
    · obtain ⟨_, _, hcs, _⟩ := hall i hi
      exact (hcs pc hpc).1
    · obtain ⟨ports, hx, hcs, hcov⟩ := hall i hi
      exact ⟨ports, hx, (passes_iff_conns (hm.target_ports_nodup _ _ hx) (hm.conn_names_nodup i hi)).mpr ⟨fun pc hpc => (hcs pc hpc).2, hcov⟩⟩

theorem _root_.Hdl21.ExportWF.InstChecked.resolved {ctx : PRef → Option (List (String × Nat))} {ws : List (String × Nat)} {fuel : Nat} {i r : HInst}
    (h : InstChecked ctx ws i) (hr : ResInstRel fuel i r) : InstChecked ctx ws r := by
  obtain ⟨ports, hc, hall, hcov⟩ := h
  obtain ⟨_, r2, _, rcs⟩ := hr
  refine ⟨ports, r2 ▸ hc, fun pr hpr => ?_, fun pw hpw => ?_⟩
  · obtain ⟨pc, hpc, e1, hres⟩ := rcs.mem_right hpr
    obtain ⟨hok, w, hl, hw⟩ := hall pc hpc
    exact ⟨resolve_sigsOK hres hok, w, e1 ▸ hl, resolve_width hres hw⟩
  · rw [rcs.map_eq fun _ _ h => h.1]
    exact hcov pw hpw

theorem ModOK.resolved {ctx : PRef → Option (List (String × Nat))} {h : HModule} {fuel : Nat} {is : List HInst} (hm : ModOK ctx h)
    (hr : All2 (ResInstRel fuel) h.instances is) : ModOK ctx ⟨h.name, h.signals, h.ports, is⟩ := by
  obtain ⟨m1, m2, m3, m4, m5, m6⟩ := hm
  refine ⟨m1, m2, m3, ?_, fun r hr' => ?_, m6⟩
  · rw [hr.map_eq fun _ _ h => h.1]
    exact m4
  · obtain ⟨i, hi, _, _, _, rcs⟩ := hr.mem_right hr'
    rw [rcs.map_eq fun _ _ h => h.1]
    exact m5 i hi

/-- Under `ModOK` the two repeats cannot fail — resolution keeps what the first run checked — so the pass list answers exactly
    when every instance is checked and every connection resolves. -/
theorem elabModule_spec {fuel : Nat} {ctx : PRef → Option (List (String × Nat))} {h e : HModule} (hm : ModOK ctx h) :
    elabModule fuel ctx h = .ok e ↔ (∀ i ∈ h.instances, InstChecked ctx (sigList h) i) ∧
      ∃ is, All2 (ResInstRel fuel) h.instances is ∧ e = ⟨h.name, h.signals, h.ports, is⟩ := by
  rw [elabModule_ok_iff, ← and_assoc, checks_iff hm, sliceResolver_ok_iff]
  refine and_congr_right fun hchk => ⟨fun hs => hs.1, fun hs => ⟨hs, ?_⟩⟩
  obtain ⟨is, hr, rfl⟩ := hs
  exact and_comm.mp ((checks_iff (hm.resolved hr)).mpr fun r hr' =>
    let ⟨i, hi, hrel⟩ := hr.mem_right hr'
    (hchk i hi).resolved hrel)

theorem pipeline_spec {fuel : Nat} {ctx : PRef → Option (List (String × Nat))} {h : HModule} {p : PModule} (hm : ModOK ctx h) :
    pipeline fuel ctx h = .ok p ↔ (∀ i ∈ h.instances, InstChecked ctx (sigList h) i) ∧
      ∃ is q ps, All2 (ResInstRel fuel) h.instances is ∧ exportPorts h.ports = .ok q ∧ All2 ExpInstRel is ps ∧
        p = ⟨h.name, sigList h, q, ps⟩ := by
  rw [pipeline_ok_iff]
  constructor
  · rintro ⟨e, he, hx⟩
    obtain ⟨hchk, is, hr, rfl⟩ := (elabModule_spec hm).mp he
    obtain ⟨q, ps, hq, hps, hp⟩ := exportModule_ok_iff.mp hx
    exact ⟨hchk, is, q, ps, hr, hq, exportInsts_ok_iff.mp hps, hp⟩
  · rintro ⟨hchk, is, q, ps, hr, hq, hps, hp⟩
    exact ⟨_, (elabModule_spec hm).mpr ⟨hchk, is, hr, rfl⟩, exportModule_ok_iff.mpr ⟨q, ps, hq, exportInsts_ok_iff.mpr hps, hp⟩⟩

theorem needR_le_fuelOf (h : HModule) (i : HInst) (hi : i ∈ h.instances) (pc : String × SConn) (hpc : pc ∈ i.conns) :
    needR pc.2 ≤ fuelOf h :=
  le_foldl_max (.inl (List.mem_flatMap.mpr ⟨i, hi, List.mem_map.mpr ⟨pc, hpc, rfl⟩⟩))

/-- a checked connection denotes something, so the resolver, given the fuel, answers on it (`resolve_total_aux`) -/
theorem resolved_of_checked {fuel : Nat} {ctx : PRef → Option (List (String × Nat))} {h : HModule}
    (hchk : ∀ i ∈ h.instances, InstChecked ctx (sigList h) i) (hne : ∀ i ∈ h.instances, ∀ pc ∈ i.conns, pc.2.noEmpty = true)
    (hf : fuelOf h ≤ fuel) : ∃ is, All2 (ResInstRel fuel) h.instances is :=
  All2.exists fun i hi => resInst_total fun pc hpc =>
    let ⟨_, bs, hd⟩ := (hchk i hi).denotes hpc
    (resolve_total_aux fuel).2.2.1 pc.2 bs hd (hne i hi pc hpc) (Nat.le_trans (needR_le_fuelOf h i hi pc hpc) hf)

theorem elabModule_accepts_iff {fuel : Nat} {ctx : PRef → Option (List (String × Nat))} {h : HModule} (hm : ModOK ctx h)
    (hne : ∀ i ∈ h.instances, ∀ pc ∈ i.conns, pc.2.noEmpty = true) (hf : fuelOf h ≤ fuel) :
    (∃ e, elabModule fuel ctx h = .ok e) ↔ ∀ i ∈ h.instances, InstChecked ctx (sigList h) i := by
  refine ⟨fun ⟨_, he⟩ => ((elabModule_spec hm).mp he).1, fun hchk => ?_⟩
  obtain ⟨is, hr⟩ := resolved_of_checked hchk hne hf
  exact ⟨_, (elabModule_spec hm).mpr ⟨hchk, is, hr, rfl⟩⟩

/-- with unit steps only, the exporter's one refusal — a stepped slice taken directly from a Signal — cannot occur -/
theorem pipeline_accepts_iff {fuel : Nat} {ctx : PRef → Option (List (String × Nat))} {h : HModule} (hm : ModOK ctx h)
    (hne : ∀ i ∈ h.instances, ∀ pc ∈ i.conns, pc.2.noEmpty = true) (hu : ∀ i ∈ h.instances, ∀ pc ∈ i.conns, pc.2.unit = true)
    (hf : fuelOf h ≤ fuel) : (∃ p, pipeline fuel ctx h = .ok p) ↔ ∀ i ∈ h.instances, InstChecked ctx (sigList h) i := by
  refine ⟨fun ⟨_, hp⟩ => ((pipeline_spec hm).mp hp).1, fun hchk => ?_⟩
  obtain ⟨is, hr⟩ := resolved_of_checked hchk hne hf
  -- every resolved connection is exported: it is flat, unit-step, and denotes what the written one does
  obtain ⟨ps, hps⟩ := All2.exists (R := ExpInstRel) (l := is) fun r hr' => expInst_total fun kc hkc => by
    obtain ⟨i, hi, _, _, _, rcs⟩ := hr.mem_right hr'
    obtain ⟨pc, hpc, _, hrs⟩ := rcs.mem_right hkc
    obtain ⟨_, bs, hd⟩ := (hchk i hi).denotes hpc
    exact export_total kc.2 (resolveSliceable_exportable hrs) (resolveSliceable_unit hrs (hu i hi pc hpc))
      ⟨bs, resolveSliceable_sound hrs hd⟩
  obtain ⟨q, hq⟩ := exportPorts_total hm.ports_directed
  exact ⟨_, (pipeline_spec hm).mpr ⟨hchk, is, q, ps, hr, hq, hps, rfl⟩⟩

theorem elemSConns_eq_mapM (es : List (String × ArrayPass.AElem)) : elemSConns es =
    List.mapM (fun pe => (fun c => (pe.1, c)) <$> pe.2.conn.elim (.error (.reject "bundle instance on an array port")) .ok) es := by
  induction es with
  | nil => rfl
  | cons pe rest ih =>
    rw [elemSConns, List.mapM_cons, ih]
    cases pe.2.conn <;> cases (List.mapM _ rest : Except _ _) <;> rfl

theorem elemSConns_spec {es : List (String × ArrayPass.AElem)} {cs : List (String × SConn)} :
    elemSConns es = .ok cs ↔ All2 (fun pe pc => pc.1 = pe.1 ∧ pe.2.conn = some pc.2) es cs := by
  simp only [elemSConns_eq_mapM, mapM_ok_iff, map_snd_ok_iff, elim_ok_iff]

theorem mkElems_eq_mapM (a : HArr) (nm : String → Nat → String) (k : Nat) (els : List (List (String × ArrayPass.AElem))) :
    mkElems a nm k els =
      List.mapM (fun x => (fun cs => (⟨nm a.name x.2, a.ref, a.params, cs⟩ : HInst)) <$> elemSConns x.1) (els.zipIdx k) := by
  induction els generalizing k with
  | nil => rfl
  | cons es rest ih =>
    rw [mkElems, List.zipIdx_cons, List.mapM_cons, ih]
    cases elemSConns es <;> cases (List.mapM _ (rest.zipIdx (k + 1)) : Except _ _) <;> rfl

theorem mkElems_ok_iff {a : HArr} {nm : String → Nat → String} {k : Nat} {els : List (List (String × ArrayPass.AElem))} {is : List HInst} :
    mkElems a nm k els = .ok is ↔
      All2 (fun x r => r.name = nm a.name x.2 ∧ r.ref = a.ref ∧ r.params = a.params ∧ elemSConns x.1 = .ok r.conns) (els.zipIdx k) is := by
  simp only [mkElems_eq_mapM, mapM_ok_iff, mkHInst_ok_iff]

theorem lookupP_map (p : String) (ports : List (String × Nat)) :
    ArrayPass.lookupP p (ports.map fun pw => (pw.1, ArrayPass.Port.sig pw.2)) = (Pkg.lookup p ports).map ArrayPass.Port.sig := by
  rw [find?_fst_of_eqns (f := ArrayPass.lookupP p) rfl (fun _ _ _ => rfl), lookup_eq_find?, List.find?_map, Option.map_map,
    Option.map_map]
  rfl

theorem expandArr_ok_iff {ctx : PRef → Option (List (String × Nat))} {nm : String → Nat → String} {a : HArr} {els : List HInst} :
    expandArr ctx nm a = .ok els ↔ ∃ ports r, ctx a.ref = some ports ∧
      ArrayPass.expand (ports.map fun pw => (pw.1, ArrayPass.Port.sig pw.2)) a.n (a.conns.map fun pc => (pc.1, ArrayPass.AConn.sig pc.2)) = .ok r ∧
      mkElems a nm 0 r = .ok els := by
  unfold expandArr
  cases ctx a.ref with
  | none => simp
  | some ports =>
    cases hx : ArrayPass.expand (ports.map fun pw => (pw.1, ArrayPass.Port.sig pw.2)) a.n (a.conns.map fun pc => (pc.1, ArrayPass.AConn.sig pc.2)) <;> simp [hx]

/-- what element `k` of an `n`-element array gets for the array's connection `pc` -/
def ElemConn (ports : List (String × Nat)) (n k : Nat) (pc rc : String × SConn) : Prop :=
  rc.1 = pc.1 ∧ ∃ w cw, lookup pc.1 ports = some w ∧ pc.2.width = .ok cw ∧
    ((w = cw ∧ rc.2 = pc.2) ∨
     (w ≠ cw ∧ w * n = cw ∧ rc.2 = .slice pc.2 (.range (some ((k * w : Nat) : Int)) (some (((k + 1) * w : Nat) : Int)) none)))

theorem expandArr_spec {ctx : PRef → Option (List (String × Nat))} {nm : String → Nat → String} {a : HArr} {els : List HInst}
    (h : expandArr ctx nm a = .ok els) :
    ∃ ports, ctx a.ref = some ports ∧ 1 ≤ a.n ∧
      All2 (fun k r => r.name = nm a.name k ∧ r.ref = a.ref ∧ r.params = a.params ∧ All2 (ElemConn ports a.n k) a.conns r.conns)
        (List.range a.n) els := by
  -- three lists lined up by position `j`: `List.range a.n` (holding `j`), the pass's answer `r` (the element's `AElem`s), `els` (the
  -- instance `mkElems` makes of them); then, inside one element, the array's connections against the instance's
  obtain ⟨ports, r, hc, hx, hm⟩ := expandArr_ok_iff.mp h
  obtain ⟨hn, hall⟩ := ArrayPass.expand_ok_iff.mp hx
  obtain ⟨l1, hr⟩ := hall.getElem?
  obtain ⟨l2, hels⟩ := (mkElems_ok_iff.mp hm).getElem?
  rw [List.length_zipIdx] at l2
  refine ⟨ports, hc, hn, .of_getElem? (l1.trans l2) fun j k ri hk hri => ?_⟩
  obtain ⟨es, hes, hcs⟩ := hr j k hk
  obtain ⟨ri', hri', hname, href, hpar, hsc⟩ := hels j (es, 0 + j) (by rw [List.getElem?_zipIdx, hes]; rfl)
  cases hri.symm.trans hri'
  -- the `j`-th element of `List.range a.n` is `j`
  cases (List.getElem?_range (by simpa using (List.getElem?_eq_some_iff.mp hk).1)).symm.trans hk
  refine ⟨by simpa using hname, href, hpar, ?_⟩
  -- the array's `pc` ↦ the element's entry `pe` (`elem`) ↦ the instance's `rc` (`AElem.conn`)
  have hvia := (ArrayPass.elemConns_ok_iff.mp hcs).map_left.comp (elemSConns_spec.mp hsc)
  refine hvia.imp ?_
  rintro pc rc ⟨pe, ⟨e1, he⟩, e2, hconn⟩
  obtain ⟨w, cw, hl, hw, hcase⟩ := ArrayPass.elem_sig_spec he
  rw [lookupP_map] at hl
  obtain ⟨w', hl', e⟩ := Option.map_eq_some_iff.mp hl
  cases e
  refine ⟨e2.trans e1, w, cw, hl', hw, ?_⟩
  rcases hcase with ⟨h1, hpe⟩ | ⟨h1, h2, hpe⟩
  · rw [hpe] at hconn; exact .inl ⟨h1, (Option.some.inj hconn).symm⟩
  · rw [hpe] at hconn; exact .inr ⟨h1, h2, (Option.some.inj hconn).symm⟩

theorem expandArr_names {ctx : PRef → Option (List (String × Nat))} {nm : String → Nat → String} {a : HArr} {els : List HInst}
    (h : expandArr ctx nm a = .ok els) :
    els.map (·.name) = (List.range a.n).map (nm a.name) ∧ ∀ r ∈ els, r.conns.map (·.1) = a.conns.map (·.1) := by
  obtain ⟨_, _, _, hall⟩ := expandArr_spec h
  refine ⟨hall.map_eq fun _ _ hr => hr.1, fun r hr => ?_⟩
  obtain ⟨_, _, _, _, _, hcs⟩ := hall.mem_right hr
  exact hcs.map_eq fun _ _ hc => hc.1

theorem flattenArrays_spec {ctx : PRef → Option (List (String × Nat))} {nm : String → Nat → String} {arrs : List HArr} {h h' : HModule}
    (hf : flattenArrays ctx nm arrs h = .ok h') :
    ∃ elss, All2 (fun a els => expandArr ctx nm a = .ok els) arrs elss ∧
      h' = ⟨h.name, h.signals, h.ports, h.instances ++ elss.flatten⟩ := by
  induction arrs generalizing h with
  | nil =>
    cases hf
    exact ⟨[], .nil, by rw [List.flatten_nil, List.append_nil]⟩
  | cons a rest ih =>
    rw [flattenArrays] at hf
    cases he : expandArr ctx nm a with
    | error x => simp [he] at hf
    | ok els =>
      simp only [he] at hf
      obtain ⟨elss, hall, rfl⟩ := ih hf
      exact ⟨els :: elss, .cons he hall, by rw [List.flatten_cons, List.append_assoc]⟩

end Hdl21.ModulePipe
