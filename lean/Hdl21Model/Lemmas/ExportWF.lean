/-
# What the exporter writes has no problems                                                                  — C06 (C01, C02, C11)

Exported targets are well-formed; the exporter's precondition (`instOK`, `EWF`) read as propositions — `InstChecked`
(each connection a `ConnChecked`) is the part of it the checking passes establish, and what the pipeline's lemmas reason about;
under it an exported instance and module have no problems, wherever the internal signals stand in the signal list.
-/
import Hdl21Model.ExportWF
import Hdl21Model.Lemmas.Export
import Hdl21Model.Lemmas.RoundTrip
namespace Hdl21.ExportWF
open Hdl21.Pkg Hdl21.RoundTrip

mutual
theorem targetProblems_nil (ws : List (String × Nat)) : ∀ t, wfTarget ws t = true → targetProblems ws t = []
  | .sig n, h => by
    rw [wfTarget] at h; rw [targetProblems]; simp [h]
  | .slice n top bot, h => by
    rw [wfTarget] at h; rw [targetProblems]
    cases hl : lookup n ws with
    | none => simp [hl] at h
    | some w =>
      simp only [hl, Bool.and_eq_true, decide_eq_true_eq] at h
      simp [h.1, h.2]
  | .concat ps, h => by
    rw [wfTarget] at h; rw [targetProblems]; exact partsProblems_nil ws ps h
theorem partsProblems_nil (ws : List (String × Nat)) : ∀ ps, wfParts ws ps = true → partsProblems ws ps = []
  | [], _ => by rw [partsProblems]
  | p :: rest, h => by
    rw [wfParts, Bool.and_eq_true] at h
    rw [partsProblems, targetProblems_nil ws p h.1, partsProblems_nil ws rest h.2]; rfl
end

theorem wfParts_append (ws : List (String × Nat)) (a b : List PTarget) : wfParts ws (a ++ b) = (wfParts ws a && wfParts ws b) := by
  induction a with
  | nil => rfl
  | cons x a ih => rw [List.cons_append, wfParts, wfParts, ih, Bool.and_assoc]

mutual
theorem export_wfTarget (ws : List (String × Nat)) : ∀ (c : SConn) (t : PTarget), sigsOK ws c = true → exportTarget c = .ok t →
    wfTarget ws t = true
  | .sig n w, t, hok, he => by
    rw [exportTarget] at he; cases he
    rw [sigsOK, beq_iff_eq] at hok
    rw [wfTarget, hok]; rfl
  | .slice (.sig n w) idx, t, hok, he => by
    obtain ⟨top, bot, rfl, h1, h2⟩ := exportTarget_slice_inrange he
    rw [sigsOK, sigsOK, beq_iff_eq] at hok
    rw [wfTarget, hok]
    simp only [Bool.and_eq_true, decide_eq_true_eq]
    exact ⟨h1, h2⟩
  | .slice (.slice _ _) _, t, _, he => by rw [exportTarget] at he; cases he
  | .slice (.concat _) _, t, _, he => by rw [exportTarget] at he; cases he
  | .concat ps, t, hok, he => by
    obtain ⟨ts, hp, rfl⟩ := exportTarget_concat_ok_iff.1 he
    exact export_wfParts ws ps ts hok hp
theorem export_wfParts (ws : List (String × Nat)) : ∀ (ps : List SConn) (ts : List PTarget), sigsOKList ws ps = true →
    exportParts ps = .ok ts → wfParts ws ts = true
  | [], ts, _, he => by rw [exportParts] at he; cases he; rfl
  | p :: ps, ts, hok, he => by
    obtain ⟨t, hp, ts', hps, rfl⟩ := exportParts_cons_ok_iff.1 he
    rw [sigsOKList, Bool.and_eq_true] at hok
    rw [wfParts_append, export_wfParts ws ps ts' hok.2 hps, wfParts, export_wfTarget ws p t hok.1 hp]; rfl
end

theorem lookup_of_mem_nodup : ∀ (l : List (String × Nat)) (k : String) (w : Nat), (k, w) ∈ l → (lookup k l).isSome = true :=
  fun _ _ _ h => lookup_isSome_iff.mpr (List.mem_map.mpr ⟨_, h, rfl⟩)

/-! `ConnTypes.passes_eq_true_iff` and C02's `InstWF` read an instance port by port, `instOK` connection by connection; `InstChecked` is
the second reading without exportability.  `instOK_iff`, `ports_iff_conns` and `C02.instWF_iff_instChecked` tie the three together. -/

def ConnChecked (ws ports : List (String × Nat)) (pc : String × SConn) : Prop :=
  sigsOK ws pc.2 = true ∧ ∃ w, lookup pc.1 ports = some w ∧ pc.2.width = .ok w

def InstChecked (ctx : PRef → Option (List (String × Nat))) (ws : List (String × Nat)) (i : HInst) : Prop :=
  ∃ ports, ctx i.ref = some ports ∧ (∀ pc ∈ i.conns, ConnChecked ws ports pc) ∧ ∀ pw ∈ ports, pw.1 ∈ i.conns.map (·.1)

/-- a checked connection is over the module's signals and — it sits on a port, so it has a width — denotes something -/
theorem InstChecked.denotes {ctx : PRef → Option (List (String × Nat))} {ws : List (String × Nat)} {i : HInst}
    (h : InstChecked ctx ws i) {pc : String × SConn} (hpc : pc ∈ i.conns) :
    sigsOK ws pc.2 = true ∧ ∃ bs, pc.2.denote = .ok bs :=
  let ⟨_, _, hcs, _⟩ := h
  let ⟨hok, _, _, hw⟩ := hcs pc hpc
  let ⟨bs, hd, _⟩ := width_denote hw
  ⟨hok, bs, hd⟩

theorem connOK_iff {ws : List (String × Nat)} {w : Nat} {c : SConn} :
    connOK ws w c = true ↔ sigsOK ws c = true ∧ (∃ t, exportTarget c = .ok t) ∧ c.width = .ok w := by
  unfold connOK
  cases exportTarget c <;> cases c.width <;> simp

theorem instOK_iff {ctx : PRef → Option (List (String × Nat))} {ws : List (String × Nat)} {i : HInst} :
    ExportWF.instOK ctx ws i = true ↔
      (i.conns.map (·.1)).Nodup ∧ InstChecked ctx ws i ∧ ∀ pc ∈ i.conns, ∃ t, exportTarget pc.2 = .ok t := by
  have hconn : ∀ ports (pc : String × SConn), (match lookup pc.1 ports with | some w => connOK ws w pc.2 | none => false) = true ↔
      ConnChecked ws ports pc ∧ ∃ t, exportTarget pc.2 = .ok t := by
    intro ports pc
    unfold ConnChecked
    cases lookup pc.1 ports with
    | none => simp
    | some w => simp only [connOK_iff, Option.some.injEq, exists_eq_left']; exact ⟨fun ⟨a, b, c⟩ => ⟨⟨a, c⟩, b⟩, fun ⟨⟨a, c⟩, b⟩ => ⟨a, b, c⟩⟩
  unfold ExportWF.instOK InstChecked
  cases ctx i.ref with
  | none => simp
  | some ports =>
    simp only [Bool.and_eq_true, decide_eq_true_eq, List.all_eq_true, Option.some.injEq, exists_eq_left', List.contains_iff_mem]
    constructor
    · rintro ⟨⟨hnd, hall⟩, hcov⟩
      exact ⟨hnd, ⟨fun pc h => ((hconn ports pc).mp (hall pc h)).1, hcov⟩, fun pc h => ((hconn ports pc).mp (hall pc h)).2⟩
    · rintro ⟨hnd, ⟨hall, hcov⟩, hexp⟩
      exact ⟨⟨hnd, fun pc h => (hconn ports pc).mpr ⟨hall pc h, hexp pc h⟩⟩, hcov⟩

theorem inst_no_problems {pkg : Package} {earlier : List PModule} {m : PModule} {pi : PInst} {ports : List (String × Nat)}
    (hctx : targetPorts pkg earlier pi.ref = some ports)
    (hnd : (pi.conns.map (·.1)).Nodup)
    (hall : ∀ pt ∈ pi.conns, ∃ w, lookup pt.1 ports = some w ∧ targetProblems m.signals pt.2 = [] ∧ (readTarget m.signals pt.2).length = w)
    (hcov : ∀ pw ∈ ports, pw.1 ∈ pi.conns.map (·.1)) :
    instProblems pkg earlier m pi = [] := by
  unfold instProblems
  rw [hctx]
  simp only
  have h2 : (pi.conns.map (·.1)).filter (fun n => !(ports.map (·.1)).contains n) = [] := by
    rw [List.filter_eq_nil_iff]
    intro n hn
    obtain ⟨pt, hpt, rfl⟩ := List.mem_map.mp hn
    obtain ⟨w, hl, _, _⟩ := hall pt hpt
    simp [mem_keys_of_lookup hl]
  have h3 : (ports.map (·.1)).filter (fun n => !(pi.conns.map (·.1)).contains n) = [] := by
    rw [List.filter_eq_nil_iff]
    intro n hn
    obtain ⟨pw, hpw, rfl⟩ := List.mem_map.mp hn
    simp [hcov pw hpw]
  rw [dups_nil_of_nodup _ hnd, h2, h3]
  simp only [List.map_nil, List.nil_append]
  rw [List.flatMap_eq_nil_iff]
  intro pt hpt
  obtain ⟨w, hl, hp, hlen⟩ := hall pt hpt
  simp [hp, hl, hlen]

theorem moduleProblems_nil {pkg : Package} {earlier : List PModule} {m : PModule} (h1 : (m.signals.map (·.1)).Nodup)
    (h2 : (m.ports.map (·.1)).Nodup) (h3 : ∀ n ∈ m.ports.map (·.1), n ∈ m.signals.map (·.1))
    (h4 : (m.instances.map (·.name)).Nodup) (h5 : ∀ s ∈ m.signals, 0 < s.2)
    (h6 : ∀ pi ∈ m.instances, instProblems pkg earlier m pi = []) : moduleProblems pkg earlier m = [] := by
  have e3 : (m.ports.map (·.1)).filter (fun n => (lookup n m.signals).isNone) = [] :=
    List.filter_eq_nil_iff.mpr fun n hn => by
      simp only [Option.isNone_iff_eq_none, lookup_eq_none_iff, Classical.not_not]
      exact h3 n hn
  have e5 : m.signals.filter (fun s => s.2 = 0) = [] :=
    List.filter_eq_nil_iff.mpr fun s hs => by simpa using Nat.ne_of_gt (h5 s hs)
  rw [moduleProblems, dups_nil_of_nodup _ h1, dups_nil_of_nodup _ h2, e3, dups_nil_of_nodup _ h4, e5, List.flatMap_eq_nil_iff.mpr h6]
  rfl

theorem instOK_no_problems {ctx : PRef → Option (List (String × Nat))} {i : HInst} {pi : PInst} {pkg : Package}
    {earlier : List PModule} {m : PModule} (hi : instOK ctx m.signals i = true) (hx : ExpInstRel i pi)
    (hctx : ∀ r, targetPorts pkg earlier r = ctx r) : instProblems pkg earlier m pi = [] := by
  obtain ⟨hnd, ⟨ports, hc, hall, hcov⟩, _⟩ := instOK_iff.mp hi
  obtain ⟨_, x2, _, xcs⟩ := hx
  have hn : pi.conns.map (·.1) = i.conns.map (·.1) := xcs.map_eq fun _ _ hr => hr.1
  refine inst_no_problems (ports := ports) (by rw [hctx, x2, hc]) (hn ▸ hnd) (fun pt hpt => ?_)
    fun pw hpw => hn ▸ hcov pw hpw
  obtain ⟨pc, hpc, e1, hexp⟩ := xcs.mem_right hpt
  obtain ⟨hok, w, hl, hw⟩ := hall pc hpc
  obtain ⟨bs, hd, hlen⟩ := width_denote hw
  exact ⟨w, e1 ▸ hl, targetProblems_nil _ _ (export_wfTarget _ _ _ hok hexp),
    by rw [export_read _ _ _ bs hok hexp hd, List.length_map, hlen]⟩

/-- the first four clauses are `ModulePipe.ModOK`'s -/
theorem EWF_iff {ctx : PRef → Option (List (String × Nat))} {h : HModule} : EWF ctx h = true ↔
    ((h.signals ++ h.ports).map (·.name)).Nodup ∧ (∀ s ∈ h.signals ++ h.ports, 0 < s.width) ∧
      (h.ports.all fun s => (s.dir.bind (lookupS · exportDirMap)).isSome) = true ∧ (h.instances.map (·.name)).Nodup ∧
      ∀ i ∈ h.instances, instOK ctx (sigList h) i = true := by
  unfold EWF
  simp only [Bool.and_eq_true, decide_eq_true_eq, and_assoc]
  exact and_congr_right fun _ => and_congr (by simp only [List.all_eq_true, decide_eq_true_eq])
    (and_congr_right fun _ => and_congr_right fun _ => List.all_eq_true)

/-! ## the place of the internal signals in the list does not matter -/

/-- Names unique across both halves: looking a name up finds the same width whichever half is written first. -/
theorem lookup_append_comm (a b : List (String × Nat)) (hnd : ((a ++ b).map (·.1)).Nodup) (k : String) :
    lookup k (a ++ b) = lookup k (b ++ a) :=
  lookup_perm hnd List.perm_append_comm k

mutual
theorem sigsOK_congr (ws ws' : List (String × Nat)) (h : ∀ k, lookup k ws = lookup k ws') :
    ∀ c : SConn, sigsOK ws c = sigsOK ws' c
  | .sig n w => by simp only [sigsOK, h]
  | .slice p _ => by simp only [sigsOK]; exact sigsOK_congr ws ws' h p
  | .concat ps => by simp only [sigsOK]; exact sigsOKList_congr ws ws' h ps
theorem sigsOKList_congr (ws ws' : List (String × Nat)) (h : ∀ k, lookup k ws = lookup k ws') :
    ∀ ps : List SConn, sigsOKList ws ps = sigsOKList ws' ps
  | [] => by simp only [sigsOKList]
  | p :: ps => by simp only [sigsOKList]; rw [sigsOK_congr ws ws' h p, sigsOKList_congr ws ws' h ps]
end

theorem instOK_congr (ctx : PRef → Option (List (String × Nat))) (ws ws' : List (String × Nat))
    (h : ∀ k, lookup k ws = lookup k ws') (i : HInst) : instOK ctx ws i = instOK ctx ws' i := by
  have hc : ∀ w c, connOK ws w c = connOK ws' w c := by
    intro w c; unfold connOK; rw [sigsOK_congr ws ws' h c]
  unfold instOK
  simp only [hc]

end Hdl21.ExportWF
