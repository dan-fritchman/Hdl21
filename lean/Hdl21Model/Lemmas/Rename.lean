/-
# Renaming the signals of a connectable commutes with what it denotes (C01: references inside slices and concatenations)
-/
import Hdl21Model.Lemmas.Conn
namespace Hdl21

theorem allBits_rename (ρ : String → String) (n : String) (w : Nat) : (allBits n w).map (renameBit ρ) = allBits (ρ n) w := by
  simp [allBits, renameBit]

theorem pickAt_map {α β} (f : α → β) (bs : List α) (k : Int) : pickAt (bs.map f) k = (pickAt bs k).map f := by
  unfold pickAt
  split
  · rfl
  · rw [List.getElem?_map]; cases bs[k.toNat]? <;> rfl

theorem pick_map {α β} (f : α → β) (bs : List α) (ks : List Int) : pick (bs.map f) ks = (pick bs ks).map (List.map f) := by
  rw [pick_eq_mapM, pick_eq_mapM, ← mapM_map_except]
  exact congrArg (List.mapM · ks) (funext (pickAt_map f bs))

mutual
theorem denote_rename (ρ : String → String) : ∀ (c : SConn),
    (c.rename ρ).denote = (match c.denote with | .ok bs => .ok (bs.map (renameBit ρ)) | .error e => .error e)
  | .sig n w => by
    rw [SConn.rename, denote_sig, denote_sig]
    simp only [allBits_rename]
  | .slice p idx => by
    rw [SConn.rename, SConn.denote, SConn.denote, denote_rename ρ p]
    cases p.denote with
    | error e => rfl
    | ok bs =>
      simp only [Except.ok_bind, List.length_map]
      cases sliceInner bs.length idx with
      | error e => rfl
      | ok inner => simp only [Except.ok_bind]; rw [pick_map]; cases pick bs inner.bits <;> rfl
  | .concat ps => by
    rw [SConn.rename, denote_concat, denote_concat, denoteList_rename ρ ps]
theorem denoteList_rename (ρ : String → String) : ∀ (ps : List SConn),
    denoteList (renameList ρ ps) = (match denoteList ps with | .ok bs => .ok (bs.map (renameBit ρ)) | .error e => .error e)
  | [] => by rw [renameList, denoteList_nil]; rfl
  | p :: ps => by
    rw [renameList, denoteList, denoteList, denote_rename ρ p, denoteList_rename ρ ps]
    cases p.denote with
    | error e => rfl
    | ok a =>
      cases denoteList ps with
      | error e => rfl
      | ok b => exact congrArg Except.ok List.map_append.symm
end

end Hdl21
