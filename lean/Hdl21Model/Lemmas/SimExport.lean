/-
`exportAn` walks the analysis tree with a counter; `assign` walks the tree's name slots, flattened in the same order, with the same
counter.  What export does to names is proved on lists (`assign_spec`) and carried over by `exportAn_correct`.
-/
import Std.Data.String.ToNat
import Hdl21Model.SimExport
import Hdl21Model.Lemmas.List

namespace Hdl21.SimExport

theorem fmt_injective {a b : Nat} (h : fmt a = fmt b) : a = b :=
  Nat.repr_injective ((String.append_right_inj "Analysis").1 h)

theorem next_spec {user : List String} {fuel k j : Nat} (h : next user fuel k = some j) : k ≤ j ∧ fmt j ∉ user := by
  induction fuel generalizing k with
  | zero => cases h
  | succ fuel ih =>
    rw [next] at h
    split at h
    · exact ⟨Nat.le_of_succ_le (ih h).1, (ih h).2⟩
    · rename_i hk
      cases Option.some.inj h
      exact ⟨Nat.le_refl _, hk⟩

theorem next_none {user : List String} {fuel k : Nat} (h : next user fuel k = none) :
    ∀ i, i < fuel → fmt (k + i) ∈ user := by
  induction fuel generalizing k with
  | zero => exact fun i hi => absurd hi (Nat.not_lt_zero i)
  | succ fuel ih =>
    rw [next] at h
    split at h
    · rename_i hk
      intro i hi
      cases i with
      | zero => exact hk
      | succ i => rw [← Nat.add_assoc, Nat.add_right_comm]; exact ih h i (Nat.lt_of_succ_lt_succ hi)
    · cases h

/-- `next_analysis_name` always finds a name: the designer can have used at most `user.length` of them. -/
theorem next_total (user : List String) (k : Nat) : ∃ j, next user (user.length + 1) k = some j := by
  cases h : next user (user.length + 1) k with
  | some j => exact ⟨j, rfl⟩
  | none =>
    obtain ⟨i, hi, hni⟩ := exists_not_mem_of_injective (fun i => fmt (k + i))
      (fun i j e => Nat.add_left_cancel (fmt_injective e)) user
    exact absurd (next_none h i (Nat.lt_succ_of_le hi)) hni

theorem assign_cons (user : List String) (n : Option String) (r : List (Option String)) (k : Nat) :
    assign user (n :: r) k =
      (pickName user n k).bind fun p => (assign user r p.2).map fun q => (p.1 :: q.1, q.2) := by
  cases n with
  | some s => rfl
  | none =>
    simp only [assign, pickName]
    cases next user (user.length + 1) k <;> rfl

theorem assign_append (user : List String) (l₁ l₂ : List (Option String)) (k : Nat) :
    assign user (l₁ ++ l₂) k =
      match assign user l₁ k with
      | none => none
      | some (n₁, k₁) => (assign user l₂ k₁).map fun (n₂, k₂) => (n₁ ++ n₂, k₂) := by
  induction l₁ generalizing k with
  | nil =>
    simp only [List.nil_append, assign]
    cases assign user l₂ k <;> rfl
  | cons n r ih =>
    rw [List.cons_append, assign_cons, assign_cons]
    cases pickName user n k with
    | none => rfl
    | some p =>
      simp only [Option.bind_some, ih]
      cases assign user r p.2 with
      | none => rfl
      | some q =>
        simp only [Option.map_some]
        cases assign user l₂ q.2 <;> rfl

/-- what `assign` produces: position by position the designer's name where there was one; all in all the designer's names and
    distinct fresh `Analysis{j}`, `j` counting up from `k` -/
theorem assign_spec {user : List String} {l : List (Option String)} {k : Nat} {ns : List String} {k' : Nat}
    (h : assign user l k = some (ns, k')) :
      ns.length = l.length ∧
      (∀ (i : Nat) (s : String), l[i]? = some (some s) → ns[i]? = some s) ∧
      ∃ inv : List String, ns.Perm (l.filterMap id ++ inv) ∧ inv.Nodup ∧ ∀ x ∈ inv, x ∉ user ∧ ∃ j, k ≤ j ∧ x = fmt j := by
  induction l generalizing k ns with
  | nil =>
    cases h
    exact ⟨rfl, fun _ _ hi => (by cases hi), [], List.Perm.refl _, List.nodup_nil, fun _ hx => (by cases hx)⟩
  | cons n r ih =>
    cases n with
    | some s =>
      simp only [assign, Option.map_eq_some_iff, Prod.exists, Prod.mk.injEq] at h
      obtain ⟨l', k1, hr, rfl, rfl⟩ := h
      obtain ⟨hlen, hkeep, inv, hp, hinv, hfree⟩ := ih hr
      refine ⟨congrArg (· + 1) hlen, fun i t hi => ?_, inv, hp.cons s, hinv, hfree⟩
      cases i with
      | zero => cases hi; rfl
      | succ i => exact hkeep i t hi
    | none =>
      simp only [assign] at h
      split at h
      · cases h
      rename_i j hn
      simp only [Option.map_eq_some_iff, Prod.exists, Prod.mk.injEq] at h
      obtain ⟨l', k1, hr, rfl, rfl⟩ := h
      obtain ⟨hkj, hfree⟩ := next_spec hn
      obtain ⟨hlen, hkeep, inv, hp, hinv, hall⟩ := ih hr
      refine ⟨congrArg (· + 1) hlen, fun i t hi => ?_, fmt j :: inv, (hp.cons _).trans List.perm_middle.symm,
        List.nodup_cons.2 ⟨fun hj => ?_, hinv⟩, fun x hx => ?_⟩
      · cases i with
        | zero => cases hi
        | succ i => exact hkeep i t hi
      · -- the later invented names count from `j + 1`
        obtain ⟨_, j', hj', e⟩ := hall _ hj
        exact Nat.ne_of_lt hj' (fmt_injective e)
      · rcases List.mem_cons.1 hx with rfl | hx
        · exact ⟨hfree, j, hkj, rfl⟩
        · obtain ⟨hu, j', hj', e⟩ := hall x hx
          exact ⟨hu, j', Nat.le_trans hkj (Nat.le_of_succ_le hj'), e⟩

theorem pickName_eq (user : List String) (n : Option String) (k : Nat) :
    pickName user n k = (assign user [n] k).map fun (l, k) => (l.headD "", k) := by
  rw [assign_cons]
  cases pickName user n k <;> rfl

theorem pickName_total (user : List String) (n : Option String) (k : Nat) : ∃ r, pickName user n k = some r := by
  cases n with
  | some t => exact ⟨_, rfl⟩
  | none =>
    obtain ⟨j, hj⟩ := next_total user k
    exact ⟨(fmt j, j + 1), by simp [pickName, hj]⟩

theorem assign_total (user : List String) : ∀ (l : List (Option String)) (k : Nat), ∃ r, assign user l k = some r := by
  intro l
  induction l with
  | nil => exact fun k => ⟨_, rfl⟩
  | cons n r ih =>
    intro k
    obtain ⟨p, hp⟩ := pickName_total user n k
    obtain ⟨q, hq⟩ := ih p.2
    exact ⟨_, by rw [assign_cons, hp, Option.bind_some, hq]; rfl⟩

/-- `r` is an answer for `a` at counter `k`: some `(a', k')`, where `a'` is `a` up to names (`erase` removes them) and carries, slot by
    slot (`names`), what `assign` makes of `a`'s slots from `k`, leaving the counter at `k'`. -/
def Exported {α : Type} (user : List String) (erase : α → α) (names : α → List (Option String)) (a : α) (k : Nat)
    (r : Option (α × Nat)) : Prop :=
  ∃ a' ns k', r = some (a', k') ∧ erase a' = erase a ∧ assign user (names a) k = some (ns, k') ∧ names a' = ns.map some

mutual
  theorem exportAn_correct (user : List String) : ∀ (a : An) (k : Nat), Exported user strip slots a k (exportAn user a k)
    | .op n, k | .dc n _ _, k | .ac n _ _ _, k | .tran n _ _, k | .noise n _ _ _ _ _ _, k | .custom n _, k => by
      obtain ⟨⟨s, k1⟩, hp⟩ := pickName_total user n k
      -- the exported analysis is left open and the equation `?h` solved first: unification reads it off what `exportAn` computes
      refine ⟨?_, [s], k1, ?h, ?_, ?_, ?_⟩
      case h => rw [exportAn, hp]; rfl
      · rfl
      · rw [slots, assign_cons, hp]; rfl
      · rfl
    | .sweep n _ _ inner, k | .monte n _ inner, k => by
      obtain ⟨⟨s, k1⟩, hp⟩ := pickName_total user n k
      obtain ⟨inner', ns, k2, hi, hs, hns, hsl⟩ := exportAns_correct user inner k1
      refine ⟨?_, s :: ns, k2, ?h, ?_, ?_, ?_⟩
      case h => rw [exportAn, hp]; simp only [hi]; rfl
      · simp only [strip, hs]
      · rw [slots, assign_cons, hp]; simp only [Option.bind_some, hns]; rfl
      · simp only [slots, hsl, List.map_cons]
  theorem exportAns_correct (user : List String) : ∀ (l : List An) (k : Nat),
      Exported user stripL slotsL l k (exportAns user l k)
    | [], k => ⟨[], [], k, rfl, rfl, rfl, rfl⟩
    | a :: r, k => by
      obtain ⟨a', n1, k1, ha, hs1, hn1, hsl1⟩ := exportAn_correct user a k
      obtain ⟨r', n2, k2, hr, hs2, hn2, hsl2⟩ := exportAns_correct user r k1
      refine ⟨a' :: r', n1 ++ n2, k2, ?_, ?_, ?_, ?_⟩
      · simp only [exportAns, ha, hr]; rfl
      · simp only [stripL, hs1, hs2]
      · simp only [slotsL]; rw [assign_append, hn1]; simp only [hn2, Option.map_some]
      · simp only [slotsL, hsl1, hsl2, List.map_append]
end

theorem exportAn_spec (user : List String) : ∀ (a : An) (k : Nat) (a' : An) (k' : Nat),
    exportAn user a k = some (a', k') →
      strip a' = strip a ∧ ∃ ns, assign user (slots a) k = some (ns, k') ∧ slots a' = ns.map some := by
  intro a k a' k' h
  obtain ⟨_, ns, _, he, hs, hns, hsl⟩ := exportAn_correct user a k
  cases he.symm.trans h
  exact ⟨hs, ns, hns, hsl⟩

theorem exportAn_total (user : List String) : ∀ (a : An) (k : Nat), (exportAn user a k).isSome = true := by
  intro a k
  obtain ⟨_, _, _, he, _⟩ := exportAn_correct user a k
  rw [he]; rfl

mutual
  theorem userNames_eq : ∀ (a : An), userNames a = (slots a).filterMap id
    | .op n | .dc n _ _ | .ac n _ _ _ | .tran n _ _ | .noise n _ _ _ _ _ _ | .custom n _ => by
      cases n <;> rfl
    | .sweep n _ _ inner | .monte n _ inner => by
      rw [userNames, slots, userNamesL_eq inner]
      cases n <;> rfl
  theorem userNamesL_eq : ∀ (l : List An), userNamesL l = (slotsL l).filterMap id
    | [] => rfl
    | a :: r => by rw [userNamesL, slotsL, userNames_eq a, userNamesL_eq r, List.filterMap_append]
end

theorem length_stripL : ∀ l : List An, (stripL l).length = l.length
  | [] => rfl
  | _ :: r => congrArg (· + 1) (length_stripL r)

/-- `exportSim` is the testbench check in front of `exportAns` from counter 0, which always answers; `an` is that answer. -/
theorem exportSim_eq (s : Sim) : ∃ an ns k,
    (exportSim s = if s.tbPorts = [1] then
      some { top := s.tbName, an := an, ctrls := (ctrls s.attrs).map exportCtrl, opts := opts s.attrs } else none) ∧
    stripL an = stripL (analyses s.attrs) ∧
    assign (userNamesL (analyses s.attrs)) (slotsL (analyses s.attrs)) 0 = some (ns, k) ∧ slotsL an = ns.map some := by
  obtain ⟨an, ns, k, he, hs, hns, hsl⟩ := exportAns_correct (userNamesL (analyses s.attrs)) (analyses s.attrs) 0
  refine ⟨an, ns, k, ?_, hs, hns, hsl⟩
  unfold exportSim isTb
  by_cases h : s.tbPorts = [1]
  · simp only [h, he]; rfl
  · rw [if_neg h, if_pos (by simpa using h)]

end Hdl21.SimExport
