/-
# `_slice_inner` read through the first bit                                                       — C03

`sliceInner w (.range a b st)` is `Inner.ofFirst start step n` with Python's adjusted start and length; `pyLen` is read by
position (`lt_pyLen_iff`), negative steps as the mirror image.  `InnerWF`: every accepted index gives an `ofFirst f st (n + 1)`
whose first and last bit lie in the parent; what the other files need of an `Inner` is computed on that record, the sign of the
step decided where `top` and `bot` are asked for.  `tail_spec` is the step of `_list_slice`'s recursion, for both directions.
-/
import Hdl21Model.Slice
namespace Hdl21

theorem arith_length (f s : Int) (n : Nat) : (arith f s n).length = n := by
  simp [arith]

theorem mem_arith {f s : Int} {n : Nat} {x : Int} :
    x ∈ arith f s n ↔ ∃ k : Nat, k < n ∧ x = f + (k : Int) * s := by
  simp [arith, eq_comm]

theorem arith_zero (f s : Int) : arith f s 0 = [] := rfl

theorem arith_succ (f s : Int) (n : Nat) : arith f s (n + 1) = f :: arith (f + s) s n := by
  unfold arith
  rw [List.range_succ_eq_map, List.map_cons, List.map_map]
  congr 1
  · simp
  · apply List.map_congr_left
    intro a _
    simp only [Function.comp]
    push_cast
    rw [Int.add_mul]; omega

theorem arith_getElem (f st : Int) (n j : Nat) (h : j < n) : (arith f st n)[j]? = some (f + (j : Int) * st) := by
  unfold arith
  rw [List.getElem?_map, List.getElem?_range h]; rfl

theorem arith_one (f st : Int) : arith f st 1 = [f] := arith_succ f st 0

theorem pyClamp_bounds (len step x : Int) (hl : 0 ≤ len) :
    (if step < 0 then -1 else 0) ≤ pyClamp len step x ∧ pyClamp len step x ≤ (if step < 0 then len - 1 else len) := by
  unfold pyClamp; dsimp only; omega

theorem clamp_id {len step x : Int} (h0 : 0 ≤ x) (h1 : x < len) : pyClamp len step x = x := by
  unfold pyClamp; omega

theorem clamp_id_neg {len step x : Int} (h0 : 0 ≤ x) (h1 : x < len) : pyClamp len step x = x := clamp_id h0 h1

theorem clamp_top_pos {len step x : Int} (hs : 0 < step) (h0 : 0 ≤ x) (h1 : x ≤ len) : pyClamp len step x = x := by
  unfold pyClamp; omega

theorem pyAdjust_some (len x y step : Int) :
    pyAdjust len (some x) (some y) step = (pyClamp len step x, pyClamp len step y) := rfl

theorem pyAdjust_bounds {w : Nat} {a b : Option Int} {step start stop : Int} (h : pyAdjust w a b step = (start, stop)) :
    ((if step < 0 then -1 else 0) ≤ start ∧ start ≤ (if step < 0 then (w : Int) - 1 else w)) ∧
    ((if step < 0 then -1 else 0) ≤ stop ∧ stop ≤ (if step < 0 then (w : Int) - 1 else w)) := by
  have hw : (0 : Int) ≤ (w : Int) := Int.natCast_nonneg w
  obtain ⟨rfl, rfl⟩ := Prod.mk.inj h
  constructor
  · cases a with
    | none => dsimp only; omega
    | some x => exact pyClamp_bounds w step x hw
  · cases b with
    | none => dsimp only; omega
    | some x => exact pyClamp_bounds w step x hw

/-! `Inner.first` hides which of `bot`, `top - 1` the selection starts at; `ofFirst` is the record `sliceInner` builds. -/

def Inner.first (s : Inner) : Int := if s.step < 0 then s.top - 1 else s.bot

theorem bits_eq_arith (s : Inner) : s.bits = arith s.first s.step s.width.toNat := by
  unfold Inner.bits Inner.first; split <;> rfl

def Inner.ofFirst (f st : Int) (n : Nat) : Inner :=
  if st > 0 then ⟨f + ((n : Int) - 1) * st + 1, f, st, n⟩
  else ⟨f + 1, f + ((n : Int) - 1) * st, st, n⟩

theorem Inner.ofFirst_pos (f : Int) {st : Int} (n : Nat) (h : 0 < st) :
    Inner.ofFirst f st (n + 1) = ⟨f + (n : Int) * st + 1, f, st, (n + 1 : Nat)⟩ := by
  rw [Inner.ofFirst, if_pos h, show ((n + 1 : Nat) : Int) - 1 = n from Int.add_sub_cancel (n : Int) 1]

theorem Inner.ofFirst_neg (f : Int) {st : Int} (n : Nat) (h : st < 0) :
    Inner.ofFirst f st (n + 1) = ⟨f + 1, f + (n : Int) * st, st, (n + 1 : Nat)⟩ := by
  rw [Inner.ofFirst, if_neg (Int.not_lt.2 (Int.le_of_lt h)), show ((n + 1 : Nat) : Int) - 1 = n from Int.add_sub_cancel (n : Int) 1]

theorem Inner.ofFirst_step (f st : Int) (n : Nat) : (Inner.ofFirst f st n).step = st := by
  unfold Inner.ofFirst; split <;> rfl

theorem Inner.ofFirst_width (f st : Int) (n : Nat) : (Inner.ofFirst f st n).width = n := by
  unfold Inner.ofFirst; split <;> rfl

theorem Inner.ofFirst_first (f : Int) {st : Int} (n : Nat) (h : st ≠ 0) : (Inner.ofFirst f st n).first = f := by
  unfold Inner.ofFirst Inner.first
  rcases Int.lt_or_gt_of_ne h with hs | hs
  · rw [if_neg (Int.not_lt.2 (Int.le_of_lt hs))]
    exact (if_pos hs).trans (Int.add_sub_cancel f 1)
  · rw [if_pos hs]
    exact if_neg (Int.not_lt.2 (Int.le_of_lt hs))

theorem Inner.ofFirst_bits (f : Int) {st : Int} (n : Nat) (h : st ≠ 0) :
    (Inner.ofFirst f st n).bits = arith f st n := by
  rw [bits_eq_arith, Inner.ofFirst_first f n h, Inner.ofFirst_step, Inner.ofFirst_width, Int.toNat_natCast]

theorem sliceInner_range (w : Nat) (a b st : Option Int) :
    sliceInner w (.range a b st) =
      if st.getD 1 = 0 then .error (.reject "slice step cannot be zero")
      else if pyLen (pyAdjust w a b (st.getD 1)).1 (pyAdjust w a b (st.getD 1)).2 (st.getD 1) = 0 then
        .error (.reject "empty slice")
      else .ok (Inner.ofFirst (pyAdjust w a b (st.getD 1)).1 (st.getD 1)
                  (pyLen (pyAdjust w a b (st.getD 1)).1 (pyAdjust w a b (st.getD 1)).2 (st.getD 1))) := by
  -- the model's two `.ok` records are the two branches of `ofFirst`
  unfold Inner.ofFirst
  rw [apply_ite Except.ok]
  rfl

theorem sliceInner_range_ok_iff {w : Nat} {a b st : Option Int} {s : Inner} :
    sliceInner w (.range a b st) = .ok s ↔
      ∃ step start stop n, st.getD 1 = step ∧ step ≠ 0 ∧ pyAdjust w a b step = (start, stop) ∧
        pyLen start stop step = n + 1 ∧ s = Inner.ofFirst start step (n + 1) := by
  rw [sliceInner_range]
  constructor
  · intro h
    split at h
    · cases h
    · next h0 =>
      split at h
      · cases h
      · next hn =>
        obtain ⟨n, hn⟩ := Nat.exists_eq_succ_of_ne_zero hn
        injection h with h
        exact ⟨_, (pyAdjust w a b (st.getD 1)).1, (pyAdjust w a b (st.getD 1)).2, n, rfl, h0, rfl, hn,
          by rw [← h, hn]⟩
  · rintro ⟨step, start, stop, n, rfl, h0, hadj, hn, rfl⟩
    rw [if_neg h0, hadj, hn, if_neg (Nat.succ_ne_zero n)]

theorem sliceInner_range_step {w : Nat} {a b st : Option Int} {s : Inner} (h : sliceInner w (.range a b st) = .ok s) :
    s.step = st.getD 1 := by
  obtain ⟨step, _, _, _, hstep, _, _, _, rfl⟩ := sliceInner_range_ok_iff.1 h
  rw [Inner.ofFirst_step, hstep]

theorem pyBits_eq_sliceInner (w : Nat) (a b st : Option Int) :
    pyBits w a b st = (match sliceInner w (.range a b st) with
      | .ok s => some s.bits
      | .error _ => if st.getD 1 = 0 then none else some []) := by
  unfold pyBits
  rw [sliceInner_range]
  by_cases h0 : st.getD 1 = 0
  · simp only [if_pos h0]
  · simp only [if_neg h0]
    by_cases hn : pyLen (pyAdjust w a b (st.getD 1)).1 (pyAdjust w a b (st.getD 1)).2 (st.getD 1) = 0
    · simp only [hn]; rfl
    · simp only [if_neg hn, Inner.ofFirst_bits _ _ h0]

theorem pyBits_of_reject {w : Nat} {a b st : Option Int} {e : Err} (h : sliceInner w (.range a b st) = .error e) :
    pyBits w a b st = none ∨ pyBits w a b st = some [] := by
  rw [pyBits_eq_sliceInner, h]
  exact (Decidable.em (st.getD 1 = 0)).imp (fun h0 => if_pos h0) (fun h0 => if_neg h0)

theorem sliceInner_int_ok_iff {w : Nat} {i : Int} {s : Inner} :
    sliceInner w (.int i) = .ok s ↔ (-(w : Int) ≤ i ∧ i < w) ∧ s = ⟨i % w + 1, i % w, 1, 1⟩ := by
  have hmod : -(w : Int) ≤ i → i < w → (if i < 0 then i + w else i) = i % w := by
    intro h1 h2
    split
    · rw [← Int.add_emod_right, Int.emod_eq_of_lt (by omega) (by omega)]
    · rw [Int.emod_eq_of_lt (by omega) h2]
  rw [sliceInner]
  constructor
  · intro h
    split at h
    · cases h
    · have hr : -(w : Int) ≤ i ∧ i < w := by omega
      injection h with h
      rw [hmod hr.1 hr.2] at h
      exact ⟨hr, h.symm⟩
  · rintro ⟨⟨h1, h2⟩, rfl⟩
    rw [if_neg (by omega), hmod h1 h2]

theorem lt_pyLen_iff {start stop step k : Int} (hs : 0 < step) (hk : 0 ≤ k) :
    k < (pyLen start stop step : Nat) ↔ start + k * step < stop := by
  unfold pyLen
  rw [if_neg (Int.not_lt.2 (Int.le_of_lt hs))]
  split
  · -- `k < q + 1` with `q` the quotient, and `k ≤ q ↔ k * step ≤ stop - start - 1`
    have hq : k ≤ (stop - start - 1) / step ↔ k * step ≤ stop - start - 1 := Int.le_ediv_iff_mul_le hs
    omega
  · have : 0 ≤ k * step := Int.mul_nonneg hk (Int.le_of_lt hs)
    omega

theorem pyLen_neg_mirror {start stop step : Int} (hs : step < 0) :
    pyLen (-start) (-stop) (-step) = pyLen start stop step := by
  unfold pyLen
  rw [if_neg (Int.not_lt.2 (Int.le_of_lt (Int.neg_pos_of_neg hs))), if_pos hs]
  rw [show -stop - -start - 1 = start - stop - 1 by omega]
  by_cases h : stop < start
  · rw [if_pos h, if_pos (Int.neg_lt_neg h)]
  · rw [if_neg h, if_neg (fun h' => h (Int.lt_of_neg_lt_neg h'))]

theorem lt_pyLen_iff_neg {start stop step k : Int} (hs : step < 0) (hk : 0 ≤ k) :
    k < (pyLen start stop step : Nat) ↔ stop < start + k * step := by
  rw [← pyLen_neg_mirror hs, lt_pyLen_iff (Int.neg_pos_of_neg hs) hk, Int.mul_neg]
  omega

theorem pyAdjust_inrange {w : Nat} {a b : Option Int} {step start stop k : Int} (h0 : step ≠ 0)
    (hadj : pyAdjust w a b step = (start, stop)) (hk : 0 ≤ k) (hlt : k < (pyLen start stop step : Nat)) :
    0 ≤ start + k * step ∧ start + k * step < w := by
  have hb := pyAdjust_bounds hadj
  rcases Int.lt_or_gt_of_ne h0 with hs | hs
  · -- descending: `-1 ≤ stop < start + k*step ≤ start ≤ w - 1`
    have h1 := (lt_pyLen_iff_neg hs hk).1 hlt
    have h2 : k * step ≤ 0 := Int.mul_nonpos_of_nonneg_of_nonpos hk (Int.le_of_lt hs)
    omega
  · -- ascending: `0 ≤ start ≤ start + k*step < stop ≤ w`
    have h1 := (lt_pyLen_iff hs hk).1 hlt
    have h2 : 0 ≤ k * step := Int.mul_nonneg hk (Int.le_of_lt hs)
    omega

theorem pyLen_stop_past_last_pos {start step : Int} (hs : 0 < step) (n : Nat) :
    pyLen start (start + (n : Int) * step + 1) step = n + 1 := by
  have hn : (0 : Int) ≤ n := Int.natCast_nonneg n
  have e : ((n : Int) + 1) * step = (n : Int) * step + step := by rw [Int.add_mul, Int.one_mul]
  -- position `n` is still selected, position `n + 1` is not
  have h1 := lt_pyLen_iff (start := start) (stop := start + (n : Int) * step + 1) hs hn
  have h2 := lt_pyLen_iff (start := start) (stop := start + (n : Int) * step + 1) hs (Int.le_add_one hn)
  omega

theorem pyLen_stop_past_last {start step : Int} (h0 : step ≠ 0) (n : Nat) :
    pyLen start (start + (n : Int) * step + (if step < 0 then -1 else 1)) step = n + 1 := by
  rcases Int.lt_or_gt_of_ne h0 with hs | hs
  · -- descending: the mirror image is the ascending case
    rw [if_pos hs, ← pyLen_neg_mirror hs,
      show -(start + (n : Int) * step + -1) = -start + (n : Int) * -step + 1 by rw [Int.mul_neg]; omega]
    exact pyLen_stop_past_last_pos (Int.neg_pos_of_neg hs) n
  · rw [if_neg (Int.not_lt.2 (Int.le_of_lt hs))]
    exact pyLen_stop_past_last_pos hs n

theorem arith_between {a d j n lo hi : Int} (hj : 0 ≤ j) (hjn : j ≤ n)
    (h1 : lo ≤ a) (h2 : a < hi) (h3 : lo ≤ a + n * d) (h4 : a + n * d < hi) :
    lo ≤ a + j * d ∧ a + j * d < hi := by
  rcases Int.le_total 0 d with hd | hd
  · have : 0 ≤ j * d := Int.mul_nonneg hj hd
    have : j * d ≤ n * d := Int.mul_le_mul_of_nonneg_right hjn hd
    omega
  · have : j * d ≤ 0 := Int.mul_nonpos_of_nonneg_of_nonpos hj hd
    have : n * d ≤ j * d := Int.mul_le_mul_of_nonpos_right hjn hd
    omega

/-- what `sliceInner pw` returns: `n + 1` bits from `f` in steps of `st`, the first and the last of them (hence all) in the parent -/
def InnerWF (pw : Nat) (s : Inner) : Prop :=
  ∃ (f st : Int) (n : Nat), s = Inner.ofFirst f st (n + 1) ∧ st ≠ 0 ∧ (0 ≤ f ∧ f < pw) ∧ (0 ≤ f + n * st ∧ f + n * st < pw)

theorem InnerWF.width_pos {pw : Nat} {s : Inner} (h : InnerWF pw s) : 1 ≤ s.width := by
  obtain ⟨f, st, n, rfl, _⟩ := h
  rw [Inner.ofFirst_width]; exact Int.ofNat_le.2 (Nat.le_add_left 1 n)

theorem InnerWF.first_ge {pw : Nat} {s : Inner} (h : InnerWF pw s) : 0 ≤ s.first := by
  obtain ⟨f, st, n, rfl, h0, hf, _⟩ := h
  rw [Inner.ofFirst_first f _ h0]; exact hf.1

theorem InnerWF.bounds {pw : Nat} {s : Inner} (h : InnerWF pw s) : 0 ≤ s.bot ∧ s.bot < s.top ∧ s.top ≤ pw := by
  obtain ⟨f, st, n, rfl, h0, hf, hl⟩ := h
  have hn := Int.natCast_nonneg n
  rcases Int.lt_or_gt_of_ne h0 with hs | hs
  · have : (n : Int) * st ≤ 0 := Int.mul_nonpos_of_nonneg_of_nonpos hn (Int.le_of_lt hs)
    rw [Inner.ofFirst_neg f n hs]; dsimp only; omega
  · have : 0 ≤ (n : Int) * st := Int.mul_nonneg hn (Int.le_of_lt hs)
    rw [Inner.ofFirst_pos f n hs]; dsimp only; omega

theorem InnerWF.inrange {pw : Nat} {s : Inner} (h : InnerWF pw s) : ∀ k ∈ s.bits, 0 ≤ k ∧ k < pw := by
  obtain ⟨f, st, n, rfl, h0, hf, hl⟩ := h
  intro k hk
  rw [Inner.ofFirst_bits f _ h0] at hk
  obtain ⟨j, hj, rfl⟩ := mem_arith.1 hk
  exact arith_between (Int.natCast_nonneg j) (Int.ofNat_le.2 (Nat.le_of_lt_succ hj)) hf.1 hf.2 hl.1 hl.2

theorem InnerWF.bits_length {pw : Nat} {s : Inner} (h : InnerWF pw s) : s.width = s.bits.length := by
  obtain ⟨f, st, n, rfl, h0, _⟩ := h
  rw [Inner.ofFirst_bits f _ h0, arith_length, Inner.ofFirst_width]

theorem InnerWF.bits_ne_nil {pw : Nat} {s : Inner} (h : InnerWF pw s) : s.bits ≠ [] := by
  obtain ⟨f, st, n, rfl, h0, _⟩ := h
  rw [Inner.ofFirst_bits f _ h0, arith_succ]; exact List.cons_ne_nil _ _

theorem sliceInner_wf {pw : Nat} {idx : Index} {s : Inner} (h : sliceInner pw idx = .ok s) : InnerWF pw s := by
  cases idx with
  | int i =>
    obtain ⟨⟨h1, h2⟩, rfl⟩ := sliceInner_int_ok_iff.1 h
    have hw : (0 : Int) < pw := by omega
    have hk := And.intro (Int.emod_nonneg i (Int.ne_of_gt hw)) (Int.emod_lt_of_pos i hw)
    refine ⟨i % pw, 1, 0, ?_, Int.one_ne_zero, hk, ?_⟩
    · rw [Inner.ofFirst_pos _ 0 Int.one_pos, Int.natCast_zero, Int.zero_mul, Int.add_zero]; rfl
    · rw [Int.natCast_zero, Int.zero_mul, Int.add_zero]; exact hk
  | range a b st =>
    obtain ⟨step, start, stop, n, _, h0, hadj, hn, rfl⟩ := sliceInner_range_ok_iff.1 h
    -- positions `0` and `n` are both selected
    have hf := pyAdjust_inrange h0 hadj (Int.le_refl 0) (by omega)
    rw [Int.zero_mul, Int.add_zero] at hf
    exact ⟨start, step, n, rfl, h0, hf, pyAdjust_inrange h0 hadj (Int.natCast_nonneg n) (by omega)⟩

/-- one place past the last bit; going down that is `bot - 1`, which `_list_slice` spells `None` when it is `-1` -/
def Inner.tailStop (s : Inner) : Option Int :=
  if s.step < 0 then (if s.bot > 0 then some (s.bot - 1) else none) else some s.top

/-- The subscript `_list_slice` uses for "everything after the first bit". -/
def Inner.tailIdx (s : Inner) : Index := .range (some (s.first + s.step)) s.tailStop (some s.step)

/-- going down, the stop `_list_slice` writes after a last bit `l` of the parent — `l - 1`, `None` for `-1` — is not clamped -/
theorem tailStop_neg {pw : Nat} {st l : Int} (hs : st < 0) (hl : 0 ≤ l ∧ l < pw) (x : Int) :
    (pyAdjust pw (some x) (if l > 0 then some (l - 1) else none) st).2 = l + -1 := by
  by_cases hb0 : l > 0
  · rw [if_pos hb0]; exact clamp_id (by omega) (by omega)
  · rw [if_neg hb0]; show (if st < 0 then -1 else (pw : Int)) = _; omega

theorem tail_spec {pw : Nat} {s : Inner} (wf : InnerWF pw s) (h2 : 2 ≤ s.width) :
    ∃ s', sliceInner pw s.tailIdx = .ok s' ∧ s.bits = s.first :: s'.bits := by
  obtain ⟨f, st, n, rfl, h0, hf, hl⟩ := wf
  rw [Inner.ofFirst_width] at h2
  obtain ⟨m, rfl⟩ : ∃ m, n = m + 1 := ⟨n - 1, by omega⟩
  have hlast : f + ((m + 1 : Nat) : Int) * st = f + st + (m : Int) * st := by
    rw [Int.natCast_add, Int.add_mul, Int.natCast_one, Int.one_mul]; omega
  -- the second bit is a bit of the parent, so the start is not clamped; nor is the stop, one place past the last bit
  have hmid := arith_between (j := 1) (by decide) (Int.ofNat_le.2 (Nat.le_add_left 1 m)) hf.1 hf.2 hl.1 hl.2
  rw [Int.one_mul] at hmid
  rw [hlast] at hl
  refine ⟨Inner.ofFirst (f + st) st (m + 1), ?_, ?_⟩
  · unfold Inner.tailIdx
    rw [Inner.ofFirst_first f _ h0, Inner.ofFirst_step]
    refine sliceInner_range_ok_iff.2 ⟨st, _, _, m, rfl, h0, Prod.ext (clamp_id hmid.1 hmid.2) ?_, pyLen_stop_past_last h0 m, rfl⟩
    unfold Inner.tailStop
    rcases Int.lt_or_gt_of_ne h0 with hs | hs
    · -- descending: the last bit is `bot`
      rw [Inner.ofFirst_neg f _ hs, if_pos hs, if_pos hs, hlast]
      exact tailStop_neg hs hl _
    · -- ascending: the last bit is `top - 1`, the stop `top ≤ pw`
      rw [Inner.ofFirst_pos f _ hs, if_neg (Int.not_lt.2 (Int.le_of_lt hs)), if_neg (Int.not_lt.2 (Int.le_of_lt hs)), hlast]
      exact clamp_top_pos hs (Int.le_trans hl.1 (Int.le_add_one (Int.le_refl _))) (Int.add_one_le_of_lt hl.2)
  · rw [Inner.ofFirst_bits f _ h0, Inner.ofFirst_first f _ h0, Inner.ofFirst_bits _ _ h0, arith_succ]

theorem sliceInner_run (w a b : Nat) (hab : a < b) (hb : b ≤ w) :
    sliceInner w (.range (some (a : Int)) (some (b : Int)) none) = .ok ⟨b, a, 1, ((b - a : Nat) : Int)⟩ := by
  obtain ⟨n, rfl⟩ := Nat.exists_eq_add_of_lt hab
  have hstop : ((a + n + 1 : Nat) : Int) = a + (n : Int) * 1 + 1 := by rw [Int.mul_one]; rfl
  have hadj : pyAdjust w (some (a : Int)) (some ((a + n + 1 : Nat) : Int)) 1 = ((a : Int), (a : Int) + (n : Int) * 1 + 1) := by
    rw [pyAdjust_some, clamp_id (Int.natCast_nonneg a) (Int.ofNat_lt.2 (by omega)),
      clamp_top_pos Int.one_pos (Int.natCast_nonneg _) (Int.ofNat_le.2 hb), hstop]
  rw [sliceInner_range_ok_iff.2 ⟨1, _, _, n, rfl, Int.one_ne_zero, hadj, pyLen_stop_past_last_pos Int.one_pos n, rfl⟩,
    Inner.ofFirst_pos _ n Int.one_pos, hstop, show a + n + 1 - a = n + 1 by omega]

theorem bits_single (k : Int) : Inner.bits ⟨k + 1, k, 1, 1⟩ = [k] := arith_one k 1

theorem bits_width_one {pw : Nat} {s : Inner} (wf : InnerWF pw s) (h1 : s.width = 1) : s.bits = [s.bot] := by
  obtain ⟨f, st, n, rfl, h0, _⟩ := wf
  rw [Inner.ofFirst_width] at h1
  obtain rfl : n = 0 := by omega
  rw [Inner.ofFirst_bits f _ h0, arith_one]
  rcases Int.lt_or_gt_of_ne h0 with hs | hs
  · rw [Inner.ofFirst_neg f 0 hs, Int.natCast_zero, Int.zero_mul, Int.add_zero]
  · rw [Inner.ofFirst_pos f 0 hs]

theorem InnerWF.unit_run {pw : Nat} {s : Inner} (wf : InnerWF pw s) (h1 : s.step = 1) :
    ∃ lo m : Nat, s = ⟨((lo + m : Nat) : Int) + 1, (lo : Nat), 1, ((m + 1 : Nat) : Int)⟩ ∧ lo + m < pw := by
  obtain ⟨f, st, n, rfl, h0, hf, hl⟩ := wf
  rw [Inner.ofFirst_step] at h1
  subst h1
  obtain ⟨lo, rfl⟩ := Int.eq_ofNat_of_zero_le hf.1
  rw [Int.mul_one] at hl
  exact ⟨lo, n, by rw [Inner.ofFirst_pos _ n Int.one_pos, Int.mul_one]; rfl, Int.ofNat_lt.1 hl.2⟩

theorem InnerWF.unit_bits {pw : Nat} {s : Inner} (wf : InnerWF pw s) (h1 : s.step = 1) :
    s.bits = arith s.bot 1 (s.top - s.bot).toNat ∧ s.width = s.top - s.bot := by
  obtain ⟨lo, m, rfl, _⟩ := wf.unit_run h1
  have e : ((lo + m : Nat) : Int) + 1 - (lo : Nat) = ((m + 1 : Nat) : Int) := by omega
  exact ⟨by rw [e]; rfl, e.symm⟩

theorem unit_steps_of_fit {m d f : Int} (hm : 0 ≤ m) (hd : 1 ≤ d) (hf : 0 ≤ f) (h : f + m * d ≤ m) :
    f = 0 ∧ (m = 0 ∨ d = 1) := by
  have h1 : 0 ≤ m * (d - 1) := Int.mul_nonneg hm (Int.sub_nonneg_of_le hd)
  have e : m * (d - 1) = m * d - m := by rw [Int.mul_sub, Int.mul_one]
  have h2 : m * (d - 1) = 0 := by omega
  refine ⟨by omega, ?_⟩
  rcases Int.mul_eq_zero.1 h2 with h | h
  · exact .inl h
  · exact .inr (by omega)

theorem bits_full {pw : Nat} {s : Inner} (wf : InnerWF pw s) (hs : 0 < s.step) (hw : s.width.toNat = pw) :
    s.bits = arith 0 1 pw := by
  obtain ⟨f, st, n, rfl, h0, hf, hl⟩ := wf
  rw [Inner.ofFirst_step] at hs
  rw [Inner.ofFirst_width, Int.toNat_natCast] at hw
  subst hw
  -- `n` steps from `f ≥ 0` end below `n + 1`: so `f = 0` and the steps are unit steps
  obtain ⟨rfl, h⟩ := unit_steps_of_fit (Int.natCast_nonneg n) hs hf.1 (by omega)
  rw [Inner.ofFirst_bits _ _ h0]
  rcases h with h | h
  · rw [Int.natCast_eq_zero.1 h, arith_one, arith_one]
  · rw [h]

end Hdl21
