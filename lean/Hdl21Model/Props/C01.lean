/-
# C01 — Elaboration and export preserve the connectivity the designer wrote

What is proved here (fragment **F1**: buses, arbitrarily nested slices and concatenations):
for every connection, of any width and nesting, the bits that the VLSIR netlisters read
(positionally, most-significant first) in the connection target that `SliceResolver` + the exporter
produce are exactly — same bits, same order, bit `i` to bit `i` — the bits the designer's expression
denotes.  This covers `_list_slice/_resolve_slice/_resolve_concat`, `export_slice`'s inclusive top and
`export_concat`'s part order.

Fragment **F2** (PortRefs.lean: port references and no-connects over whole signals): `portrefs_preserve_connectivity`
— when `ResolvePortRefs` is done, two ports are on one signal iff the connections the designer wrote (port to signal,
port to port reference — chains, fans, cycles, with or without a declared signal in the group) join them; a port is on a
declared signal iff it is wired to it; a no-connected port is on a signal nothing else is on; the signals invented for
groups without a declared signal are distinct from every declared one.  `follow`'s depth-first group discovery is
proved to compute connected components (`Lemmas/Dfs.lean`).

The later sections, each over the model of its pass: references inside slices and concatenations
(`references_inside_compounds`), instance bundles, instance arrays, bundle-valued ports, and the passes composed on one
module and on a design (`module_connections_preserved`, `array_elements_read_their_bits`,
`design_connections_preserved`); DESIGN.md §12.1 says what each claims.

What is **not** proved but decided by the correspondence with the declarative `Sem.src` as oracle
(Design.lean; evaluated by the driver on every generated design and compared with `Sem.pkg` of the
real package and with the netlist text): the composition of the passes beyond F1 within a module (references, arrays
and bundles together) and across the hierarchy (F3 of DESIGN.md §6).
-/
import Hdl21Model.Lemmas.PortRefs
import Hdl21Model.Lemmas.Rename
import Hdl21Model.Lemmas.Nets
import Hdl21Model.Lemmas.InstBundle
import Hdl21Model.Lemmas.BundleConn
import Hdl21Model.Props.C06
namespace Hdl21.Props.C01
open Hdl21.Pkg

/-- **F1**: resolve, export, read back = the designer's bits. -/
theorem connection_preserved (ws : List (String × Nat)) (fuel : Nat) (c r : SConn) (t : PTarget) (bs : List Bit)
    (hok : sigsOK ws c = true)
    (hr : resolveSliceable fuel c = .ok r) (he : exportTarget r = .ok t) (hd : c.denote = .ok bs) :
    readTarget ws t = bs.map bitNat :=
  read_resolved hok hr he hd

/-- Bit `i` of the connection reaches bit `i` of the port: the reading has the connection's width
    and its `i`-th element is the `i`-th denoted bit. -/
theorem bit_i_to_bit_i (ws : List (String × Nat)) (fuel : Nat) (c r : SConn) (t : PTarget) (bs : List Bit)
    (hok : sigsOK ws c = true)
    (hr : resolveSliceable fuel c = .ok r) (he : exportTarget r = .ok t) (hd : c.denote = .ok bs) (i : Nat) :
    (readTarget ws t)[i]? = (bs[i]?).map bitNat := by
  rw [connection_preserved ws fuel c r t bs hok hr he hd, List.getElem?_map]

/-- Concatenation parts are exported most-significant first: reading `Concat(a, b)` gives `a`'s bits lowest. -/
theorem concat_order (ws : List (String × Nat)) (a b : SConn) (ta tb : PTarget)
    (ha : exportTarget a = .ok ta) (hb : exportTarget b = .ok tb) :
    exportTarget (.concat [a, b]) = .ok (.concat [tb, ta]) ∧
    readTarget ws (.concat [tb, ta]) = readTarget ws ta ++ readTarget ws tb :=
  ⟨by rw [exportTarget, exportParts, ha, exportParts, hb]; rfl,
    by rw [readTarget, readParts, readParts, readParts, List.nil_append]⟩

/-! ### Non-vacuity: a reversed slice of a concatenation -/
example :
    let c : SConn := .slice (.concat [.sig "a" 2, .sig "b" 3]) (.range none none (some (-2)))
    (match resolveSliceable 12 c with
     | .ok r => (match exportTarget r with
                 | .ok t => some (readTarget [("a", 2), ("b", 3)] t)
                 | .error _ => none)
     | .error _ => none) = some [("b", 2), ("b", 0), ("a", 0)] := by decide +kernel

/-! ## Arrays: per-element wiring (`ArrayFlattener`: element `k` gets `conn[k*w : (k+1)*w]`) -/

/-- Element `k` of an instance array whose port of width `w` is wired per element to a connection of `n * w` bits
    receives exactly the bits `k*w … (k+1)*w - 1` of that connection, in order: bit `j` of the element's port is bit
    `k*w + j` of the connection. -/
theorem array_element_bits (c : SConn) (bs : List Bit) (n w k : Nat) (hd : c.denote = .ok bs) (hlen : bs.length = n * w)
    (hk : k < n) (hw : 0 < w) :
    ∃ es, (SConn.slice c (.range (some ((k * w : Nat) : Int)) (some (((k + 1) * w : Nat) : Int)) none)).denote = .ok es ∧
      es.length = w ∧ ∀ j, j < w → es[j]? = bs[k * w + j]? := by
  have e : (k + 1) * w - k * w = w := by rw [Nat.succ_mul, Nat.add_sub_cancel_left]
  have hle : (k + 1) * w ≤ bs.length := by rw [hlen]; exact Nat.mul_le_mul_right w hk
  refine ⟨_, denote_slice_unit hd (by rw [Nat.succ_mul]; exact Nat.lt_add_of_pos_right hw) hle, ?_, fun j hj => ?_⟩
  · rw [List.length_take, List.length_drop, e]; omega
  · rw [List.getElem?_take, e, if_pos hj, List.getElem?_drop]

/-! ## F2: port references and no-connects -/
section F2
open Hdl21.PortRefs Hdl21.Dfs

/-- **F2.** After `ResolvePortRefs` (every port of the module resolved to the signal `r p`):
    two ports share a signal iff the designer's connections join them; a port is on a declared signal iff it is wired to
    it; a port connected to a no-connect ends on a signal that carries nothing else. -/
theorem portrefs_preserve_connectivity (m : Mod) (wf : WF m) (r : Port → Nat)
    (hres : ∀ p ∈ m.ports, resolvePort m p = some (r p)) :
    (∀ p₁ ∈ m.ports, ∀ p₂ ∈ m.ports, (r p₁ = r p₂ ↔ Wired m (.port p₁) (.port p₂))) ∧
    (∀ p ∈ m.ports, ∀ s, s < m.nsig → (r p = s ↔ Wired m (.port p) (.sig s))) ∧
    (∀ p ∈ m.ports, ∀ id, look m p = some (.nc id) → ∀ p₂ ∈ m.ports, r p₂ = r p → p₂ = p) := by
  refine ⟨fun p₁ h₁ p₂ h₂ => label_eq_iff_wired wf hres (a := .port p₁) (b := .port p₂) h₁ h₂,
    fun p hp s hs => label_eq_iff_wired wf hres (a := .port p) (b := .sig s) hp hs, fun p hp id hl p₂ hp₂ heq => ?_⟩
  have w := (label_eq_iff_wired wf hres (a := .port p₂) (b := .port p) hp₂ hp).mp heq
  exact Node.port.inj ((wired_nc wf hl (hres p hp) w).mpr rfl)

/-- The signals invented for groups without a declared signal are none of the designer's. -/
theorem invented_signals_are_fresh (m : Mod) (p : Port) (v : Nat) (h : resolvePort m p = some v) :
    v < m.nsig → ∃ x, Reach (nbrs m) p x ∧ look m x = some (.sig v) := by
  intro hv
  rcases resolvePort_basis h with hx | ⟨idx, _, hv', _⟩
  · exact hx
  · omega

/-! Non-vacuity: `i1.a = i0.x`, `i2.b = i0.x`, `i0.x` left to the references; `i3.c = s0`; `i4.d = NoConn()`. -/
def exMod : Mod := ⟨[(0, 0), (1, 0), (2, 0), (3, 0), (4, 0)],
  [((1, 0), .pref (0, 0)), ((2, 0), .pref (0, 0)), ((3, 0), .sig 0), ((4, 0), .nc 0)], 1⟩
example : exMod.ports.map (resolvePort exMod) = [some 1, some 1, some 1, some 0, some 5] := by decide +kernel
end F2

/-! ## F2, continued: references inside slices and concatenations

A connection may *contain* references — `Concat(other.q, sig[0])`, `other.q[1:3]`.  Such a reference stands for the whole
port `other.q`; once that port's group has its signal (F2 above), `update_ref_deps` puts the signal in the reference's
place.  In the model the written connection is an `SConn` in which a reference is a pseudo-signal of the port's width, and
the elaborated connection is its `rename` under `ρ` = "pseudo-signal of `q` ↦ the signal `q` resolved to, signals ↦ themselves". -/

/-- **Bit `i` of the elaborated connection is bit `i` of the written one**, with every bit of a referenced port replaced by the
    same bit of the signal that port was resolved to, and every bit of a declared signal left as it is: slicing and
    concatenating commute with resolving the references inside. -/
theorem references_inside_compounds (ρ : String → String) (c : SConn) (bs : List Bit) (h : c.denote = .ok bs) :
    (c.rename ρ).denote = .ok (bs.map (renameBit ρ)) ∧ (bs.map (renameBit ρ)).length = bs.length ∧
    ∀ i : Nat, (bs.map (renameBit ρ))[i]? = (bs[i]?).map (renameBit ρ) := by
  refine ⟨by rw [denote_rename, h], by simp, fun i => by simp⟩

/-- … and a connection the designer could not have written (bad index, empty selection) stays refused. -/
theorem references_inside_compounds_refused (ρ : String → String) (c : SConn) (e : Err) (h : c.denote = .error e) :
    (c.rename ρ).denote = .error e := by
  rw [denote_rename, h]

/-- `Concat(&q[1:3], s[0])` with `q` (3 bits) resolved to the implicit signal `i_q`: the port gets `i_q[1], i_q[2], s[0]`. -/
example :
    ((SConn.concat [.slice (.sig "&q" 3) (.range (some 1) (some 3) none), .slice (.sig "s" 2) (.int 0)]).rename
      (fun n => if n = "&q" then "i_q" else n)).denote.toOption = some [("i_q", 1), ("i_q", 2), ("s", 0)] := by decide +kernel

/-! ## the oracle: the net solver's union-find

Both readings of a design — `Sem.src` of what was written, `Sem.pkg` of the exported package — are computed by the same naive
solver (Nets.lean), whose only non-trivial step is merging classes of atoms. -/
section Oracle
open Hdl21.Nets

/-- `join cs a b` is union: over pairwise disjoint classes, two atoms are together afterwards iff they were together before
    (`a` and `b` each being given a class of their own if they had none), or one was with `a` and the other with `b`. -/
theorem solver_join_is_union (cs : List (List Atom)) (a b : Atom) (hd : Disj cs) :
    Disj (join cs a b) ∧
    ∀ x y, Same (join cs a b) x y ↔
      (Same (touch (touch cs a) b) x y ∨ (Same (touch (touch cs a) b) x a ∧ Same (touch (touch cs a) b) b y) ∨
       (Same (touch (touch cs a) b) x b ∧ Same (touch (touch cs a) b) a y)) :=
  join_spec cs a b hd

/-- `joinAll cs l` (all port bits of one child net glued onto the parent's atoms): everything of `l` ends in one class, what was
    together stays together, and nothing is identified beyond the equivalence generated by the old classes and the list. -/
theorem solver_joinAll_sound_and_complete (l : List Atom) (cs : List (List Atom)) (hd : Disj cs) :
    Disj (joinAll cs l) ∧ (∀ x y, Same cs x y → Same (joinAll cs l) x y) ∧
    (∀ x ∈ l, ∀ y ∈ l, Same (joinAll cs l) x y) ∧ (∀ x y, Same (joinAll cs l) x y → Gen cs l x y) :=
  joinAll_spec l cs hd

example : (joinAll [[⟨"s:a", [], 0⟩], [⟨"s:b", [], 0⟩, ⟨"s:c", [], 0⟩]] [⟨"s:a", [], 0⟩, ⟨"s:c", [], 0⟩]).length = 1 := by decide +kernel
end Oracle

/-! ## instance bundles (`h.Pair` and other `InstanceBundleType`s) -/
section InstBundles
open Hdl21.InstBundle

/-- **What `InstBundleElabPass` makes of an instance bundle**: one instance per member of the bundle type, in member order, each
    with exactly the instance bundle's ports in their order; on every port the member's instance gets what `elemConn` says —
    its own member of a bundle instance of the very type, the field of its name of an anonymous bundle, a scalar connection
    as it is (the same for every member), a no-connect left to be resolved per instance. -/
theorem instbundle_expansion (ty : String) (nested : Bool) (ms : List String) (conns : List (String × IBConn))
    (r : List (String × List (String × ElemConn))) (h : expand ty nested ms conns = .ok r) (hnd : (conns.map (·.1)).Nodup) :
    nested = false ∧ r.map (·.1) = ms ∧
    ∀ m es, (m, es) ∈ r → es.map (·.1) = conns.map (·.1) ∧
      ∀ p c e, (p, c) ∈ conns → (p, e) ∈ es → elemConn ty ms m c = .ok e := by
  cases nested with
  | true => cases h
  | false =>
    have hr := expandMembers_ok_iff.mp h
    refine ⟨rfl, (hr.map_eq (f := id) fun _ _ h => h.1).trans (List.map_id _), fun m es hm => ?_⟩
    obtain ⟨_, _, rfl, hes⟩ := hr.mem_right hm
    exact ⟨(elemConns_ok_iff.mp hes).map_eq fun _ _ h => h.1, fun p c e hc he => elemConn_of_mem hes hnd hc he⟩

/-- the four kinds of connection, spelled out -/
theorem instbundle_connection_kinds (ty : String) (ms : List String) (m : String) :
    (∀ c, elemConn ty ms m (.scalar c) = .ok (.conn c)) ∧
    (∀ b, elemConn ty ms m (.bundle ty b) = .ok (.member b m)) ∧
    (∀ fields c, (fields.any fun f => !ms.contains f.1) = false → lookupF m fields = some c →
        elemConn ty ms m (.anon fields) = .ok (.conn c)) ∧
    elemConn ty ms m .noconn = .ok .noconn := by
  refine ⟨fun _ => rfl, fun b => by simp [elemConn], fun fields c h1 h2 => ?_, rfl⟩
  show (if (fields.any fun f => !ms.contains f.1) = true then _ else _) = _
  rw [if_neg (by rw [h1]; exact Bool.false_ne_true), h2]

/-- … and what it refuses: nested bundle types, a bundle instance of another type, an anonymous bundle with a field the
    bundle type does not have (C02). -/
theorem instbundle_refusals (ty : String) (ms : List String) (conns : List (String × IBConn)) :
    (∃ e, expand ty true ms conns = .error e) ∧
    (∀ m ty' b, ty' ≠ ty → ∃ e, elemConn ty ms m (.bundle ty' b) = .error e) ∧
    (∀ m fields, (fields.any fun f => !ms.contains f.1) = true → ∃ e, elemConn ty ms m (.anon fields) = .error e) := by
  refine ⟨⟨"Invalid Instance Bundle with nested Bundles", by simp [expand]⟩,
    fun m ty' b hne => ⟨"Invalid Instance Bundle connection", by simp [elemConn, hne]⟩,
    fun m fields h => ⟨"has no members", ?_⟩⟩
  show (if (fields.any fun f => !ms.contains f.1) = true then _ else _) = _
  rw [if_pos h]

example : (expand "Diff" false ["p", "n"] [("a", .anon [("n", .sig "y" 1), ("p", .sig "x" 1)]), ("b", .scalar (.sig "v" 1))]).toOption.map
    (fun r => r.map fun me => (me.1, me.2.map (·.1))) = some [("p", ["a", "b"]), ("n", ["a", "b"])] := by decide +kernel
end InstBundles

section Arrays
open Hdl21.ArrayPass

/-- **What `ArrayFlattener` makes of an instance array**: `n ≥ 1` instances, element `k` with exactly the array's ports in
    their order, and on port `p` what `elem … k p` says of the array's connection. -/
theorem array_expansion (ports : List (String × Port)) (n : Nat) (conns : List (String × AConn))
    (r : List (List (String × AElem))) (h : expand ports n conns = .ok r) :
    1 ≤ n ∧ r.length = n ∧
    ∀ k, k < n → ∃ es, r[k]? = some es ∧ es.length = conns.length ∧
      ∀ (i : Nat) p c, conns[i]? = some (p, c) → ∃ e, es[i]? = some (p, e) ∧ elem ports n k p c = .ok e := by
  obtain ⟨hn, hall⟩ := expand_ok_iff.mp h
  obtain ⟨l1, l2⟩ := hall.getElem?
  rw [List.length_range] at l1
  refine ⟨hn, l1.symm, fun k hk => ?_⟩
  obtain ⟨es, e1, e2⟩ := l2 k k (List.getElem?_range hk)
  obtain ⟨m1, m2⟩ := (elemConns_ok_iff.mp e2).getElem?
  refine ⟨es, e1, m1.symm, fun i p c hc => ?_⟩
  obtain ⟨⟨p', e⟩, f1, rfl, f3⟩ := m2 i (p, c) hc
  exact ⟨e, f1, f3⟩

/-- the kinds of connection, spelled out: a bundle instance goes to every element as it is; a connection as wide as the port
    goes to every element as it is; one `n` times as wide is cut into `n` parts, element `k` getting `[k*w, (k+1)*w)`. -/
theorem array_connection_kinds (ports : List (String × Port)) (n k : Nat) (p : String) :
    (∀ b, elem ports n k p (.bundle b) = .ok (.bundle b)) ∧
    (∀ c w, lookupP p ports = some (.sig w) → c.width = .ok w → elem ports n k p (.sig c) = .ok (.whole c)) ∧
    (∀ c w, lookupP p ports = some (.sig w) → c.width = .ok (w * n) → w ≠ w * n →
        elem ports n k p (.sig c) = .ok (.part c (k * w) ((k + 1) * w))) :=
  ⟨fun _ => rfl, fun c w h1 h2 => by simp [elem, h1, h2], fun c w h1 h2 h3 => by simp [elem, h1, h2, h3]⟩

/-- … and the pass accepts an array exactly when it has at least one element and every connection is a bundle instance or a
    Signal / Slice / Concat on a Signal port of the target whose width is the port's or `n` times the port's (C02). -/
theorem array_pass_accepts_iff (ports : List (String × Port)) (n : Nat) (conns : List (String × AConn)) :
    (∃ r, expand ports n conns = .ok r) ↔
      1 ≤ n ∧ ∀ pc ∈ conns, match pc.2 with
        | .bundle _ => True
        | .sig c => ∃ w cw, lookupP pc.1 ports = some (.sig w) ∧ c.width = .ok cw ∧ (w = cw ∨ w * n = cw)
        | _ => False := by
  have key : ∀ k p c, (∃ e, elem ports n k p c = .ok e) ↔ (match c with
        | .bundle _ => True
        | .sig c => ∃ w cw, lookupP p ports = some (.sig w) ∧ c.width = .ok cw ∧ (w = cw ∨ w * n = cw)
        | _ => False) := by
    intro k p c
    cases c with
    | bundle b => exact ⟨fun _ => trivial, fun _ => ⟨_, rfl⟩⟩
    | sig c => exact elem_sig_total_iff
    | portref | other => exact ⟨fun ⟨_, h⟩ => (nomatch h), False.elim⟩
  refine ⟨fun ⟨r, h⟩ => ?_, fun ⟨hn, hall⟩ => ?_⟩
  · obtain ⟨hn, _, hk⟩ := array_expansion ports n conns r h
    refine ⟨hn, fun pc hpc => ?_⟩
    obtain ⟨es, _, _, he⟩ := hk 0 hn
    obtain ⟨i, hi⟩ := List.getElem?_of_mem hpc
    obtain ⟨e, _, h2⟩ := he i pc.1 pc.2 hi
    exact (key 0 pc.1 pc.2).mp ⟨e, h2⟩
  · obtain ⟨r, hr⟩ := elements_total (l := List.range n) fun pc hpc k => (key k pc.1 pc.2).mpr (hall pc hpc)
    exact ⟨r, expand_ok_iff.mpr ⟨hn, elements_ok_iff.mp hr⟩⟩

/-- the part an element gets stands for exactly its `w` bits of the connection (`array_element_bits`), so that the `n` parts
    partition the connection: bit `i` of the connection is bit `i % w` of element `i / w`'s port and of no other. -/
theorem array_parts_partition (c : SConn) (bs : List Bit) (n w : Nat) (hd : c.denote = .ok bs) (hlen : bs.length = n * w)
    (hw : 0 < w) (i : Nat) (hi : i < n * w) :
    ∃ sc es, (AElem.part c ((i / w) * w) ((i / w + 1) * w)).conn = some sc ∧ sc.denote = .ok es ∧ es.length = w ∧
      es[i % w]? = bs[i]? := by
  obtain ⟨es, h1, h2, h3⟩ := array_element_bits c bs n w (i / w) hd hlen ((Nat.div_lt_iff_lt_mul hw).mpr hi) hw
  refine ⟨_, es, rfl, h1, h2, ?_⟩
  rw [h3 (i % w) (Nat.mod_lt _ hw), Nat.mul_comm, Nat.div_add_mod]

example : (expand [("d", .sig 2), ("ck", .sig 1)] 3 [("d", .sig (.sig "bus" 6)), ("ck", .sig (.sig "clk" 1))]).toOption.map
    (fun r => r.map fun es => es.map fun pe => match pe.2 with | .part _ lo hi => (pe.1, lo, hi) | _ => (pe.1, 0, 0)) =
    some [[("d", 0, 2), ("ck", 0, 0)], [("d", 2, 4), ("ck", 0, 0)], [("d", 4, 6), ("ck", 0, 0)]] := by decide +kernel
end Arrays

/-! ## bundle-valued ports: what `BundleFlattener` connects the flattened ports to -/
section BundleConnections
open Hdl21.Bundles Hdl21.BundleConn

/-- **Flattened ports are paired with members by path.** Whenever the re-connection of a bundle-valued port `port` answers, the
    instance has exactly one connection per leaf path `π` of the port's bundle type, in that order, on the flattened port
    `port_π`, and it is the scalar connectable the written connection holds at member path `π` — never one chosen by position. -/
theorem bundle_connection_pairs_by_path (nm : String → List String → String) (env : Env) (port : String) (portTree : BTree)
    (c : BConn) (cs : List (String × SConn)) (h : reconnect nm env port portTree c = .ok cs) :
    ∃ s, resolve nm env c = .ok s ∧
      cs.map (·.1) = ((flatten false false none portTree).map (·.path)).map (flatName port) ∧
      ∀ k (hk : k < ((flatten false false none portTree).map (·.path)).length),
        ∃ x, s.at ((flatten false false none portTree).map (·.path))[k] = some (.leaf x) ∧
          cs[k]? = some (flatName port ((flatten false false none portTree).map (·.path))[k], x) := by
  unfold reconnect at h
  cases hr : resolve nm env c with
  | error e => simp [hr] at h
  | ok s =>
    simp only [hr] at h
    exact ⟨s, rfl, connect_spec port s _ cs h⟩

/-- **A bundle instance of the port's own type** (member names distinct at every level of the definition) is connected member by
    member: the flattened port `port_π` ends on the signal the instance's member `π` was flattened to, `nm b π`, of the leaf's
    width — for every leaf path, whatever the depth and fan-out of the definition tree. -/
theorem bundle_instance_connection_memberwise (nm : String → List String → String) (env : Env) (port b : String) (t : BTree)
    (hb : lookupEnv b env = some t) (hwf : WFT t) :
    reconnect nm env port t (.inst b) =
      .ok ((flatten false false none t).map (fun f => (flatName port f.path, SConn.sig (nm b f.path) f.width))) := by
  unfold reconnect
  simp only [resolve, hb]
  exact connect_eq_ok_map port (fun f => SConn.sig (nm b f.path) f.width)
    (fun f hf => by simpa using scopeOf_at nm b t hwf [] false none f hf)

/-- **A reference to a sub-bundle** stands for that part of its root: member `π` of `root.p` is member `p ++ π` of `root`. -/
theorem subbundle_reference_is_relative (nm : String → List String → String) (env : Env) (root : String) (p : List String)
    (t : BTree) (s : Scope) (hb : lookupEnv root env = some t) (h : resolve nm env (.ref root p) = .ok s) (π : List String) :
    s.at π = (scopeOf nm root [] t).at (p ++ π) := by
  simp only [resolve, hb] at h
  cases ha : (scopeOf nm root [] t).at p with
  | none => simp [ha] at h
  | some s' =>
    simp only [ha, Except.ok.injEq] at h
    subst h
    exact (Scope.at_append _ p π s' ha).symm

/-- **A member of an anonymous bundle is found by its name**, wherever it stands among the fields, and whatever it is — a scalar
    connectable, a bundle instance, a reference, another anonymous bundle: member `f :: π` of the anonymous bundle is member `π` of
    its field `f`. -/
theorem anonymous_bundle_member_by_name (nm : String → List String → String) (env : Env) (fs : List (String × BConn)) (s : Scope)
    (h : resolve nm env (.anon fs) = .ok s) (f : String) (c : BConn) (hf : fs.find? (fun x => x.1 = f) = some (f, c))
    (π : List String) : ∃ sc, resolve nm env c = .ok sc ∧ s.at (f :: π) = sc.at π := by
  simp only [resolve] at h
  cases hr : resolveFields nm env fs with
  | error e => simp [hr] at h
  | ok ms =>
    simp only [hr, Except.ok.injEq] at h
    subst h
    obtain ⟨sc, hsc, hl⟩ := resolveFields_lookup nm env fs ms hr f c hf
    exact ⟨sc, hsc, by simp [Scope.at, hl]⟩

/-- **Refusals**: a leaf of the port's type for which the connection holds no scalar connectable (a missing member, or a whole
    sub-bundle where a signal is needed) makes the pass raise; so does a bundle instance the module does not have and a reference
    path its root does not have. Nothing is connected by position to make up for it. -/
theorem bundle_connection_refusals (nm : String → List String → String) (env : Env) (port : String) (portTree : BTree) :
    (∀ (c : BConn) (s : Scope) (π : List String), resolve nm env c = .ok s → π ∈ (flatten false false none portTree).map (·.path) →
        (∀ x, s.at π ≠ some (.leaf x)) → ∃ e, reconnect nm env port portTree c = .error e) ∧
    (∀ b, lookupEnv b env = none → ∃ e, reconnect nm env port portTree (.inst b) = .error e) ∧
    (∀ root p t, lookupEnv root env = some t → (scopeOf nm root [] t).at p = none →
        ∃ e, reconnect nm env port portTree (.ref root p) = .error e) := by
  refine ⟨fun c s π hr hm hno => ?_, fun b hb => ?_, fun root p t hb ha => ?_⟩
  · unfold reconnect
    simp only [hr]
    exact connect_refuses port s _ π hm hno
  · cases h : reconnect nm env port portTree (.inst b) with
    | error e => exact ⟨e, rfl⟩
    | ok cs => simp [reconnect, resolve, hb] at h
  · cases h : reconnect nm env port portTree (.ref root p) with
    | error e => exact ⟨e, rfl⟩
    | ok cs => simp [reconnect, resolve, hb, ha] at h

/-- Non-vacuity: a port of type `{x, s: {u (2 bits)}}` connected to an anonymous bundle whose fields come in the other order, `s`
    given as a reference to a sub-bundle of another instance and `x` as a slice; and the same with `s` missing. -/
example :
    let sub : BTree := .node [⟨"u", 2, false, .none, none, none⟩] []
    let pt : BTree := .node [⟨"x", 1, false, .none, none, none⟩] [("s", false, none, sub)]
    let big : BTree := .node [⟨"y", 1, false, .none, none, none⟩] [("inner", true, none, sub)]
    let env : Env := [("bb", big)]
    let show_ := fun (r : Except String (List (String × SConn))) => match r with
      | .ok cs => some (cs.map fun pc => (pc.1, match pc.2 with | .sig n w => (n, w) | _ => ("<slice>", 0)))
      | .error _ => none
    show_ (reconnect flatName env "p" pt (.anon [("s", .ref "bb" ["inner"]), ("x", .scalar (.slice (.sig "bus" 4) (.int 2)))])) =
      some [("p_x", ("<slice>", 0)), ("p_s_u", ("bb_inner_u", 2))] ∧
    show_ (reconnect flatName env "p" pt (.anon [("x", .scalar (.sig "a" 1))])) = none := by decide +kernel

end BundleConnections

section Pipeline
open Hdl21.RoundTrip Hdl21.ExportWF Hdl21.ModulePipe

/-- what the netlisters read on a port of an exported instance, against what the designer wrote there -/
def ConnKept (ws : List (String × Nat)) (pc : String × SConn) (pt : String × PTarget) : Prop :=
  pt.1 = pc.1 ∧ ∃ bs, pc.2.denote = .ok bs ∧ readTarget ws pt.2 = bs.map bitNat

def InstKept (ws : List (String × Nat)) (i : HInst) (pi : PInst) : Prop :=
  pi.name = i.name ∧ pi.ref = i.ref ∧ pi.params = i.params ∧ All2 (ConnKept ws) i.conns pi.conns

/-- **C01 for a whole F1 module, through the composed default pass list and the exporter**: whenever `pipeline` answers, the
    exported module declares the module's signals, has one instance per instance the designer wrote — same name, same target,
    same parameters, in order — and every instance the same ports in the same order, each connected to a target in which the
    netlisters read, bit *i* for bit *i*, exactly the signal bits the designer's expression (any nesting of slices and
    concatenations, any step and sign) denotes.  Two terminals therefore touch the same signal bit in the package iff they do in
    the source: the attachment map is the same, and the nets are its fibres. -/
theorem module_connections_preserved (fuel : Nat) (ctx : PRef → Option (List (String × Nat))) (h : HModule) (p : PModule)
    (hm : ModOK ctx h) (hp : pipeline fuel ctx h = .ok p) :
    p.name = h.name ∧ p.signals = sigList h ∧ All2 (InstKept (sigList h)) h.instances p.instances := by
  obtain ⟨hchk, is, _, _, hr, _, hx, rfl⟩ := (pipeline_spec hm).mp hp
  refine ⟨rfl, rfl, (hr.comp hx).imp_mem fun i hi pi _ ⟨r, ⟨r1, r2, r3, rcs⟩, x1, x2, x3, xcs⟩ => ?_⟩
  refine ⟨x1.trans r1, x2.trans r2, x3.trans r3, (rcs.comp xcs).imp_mem fun pc hpc pt _ ⟨pr, ⟨e1, hres⟩, e2, hexp⟩ => ?_⟩
  obtain ⟨hok, bs, hd⟩ := (hchk i hi).denotes hpc
  exact ⟨e2.trans e1, bs, hd, connection_preserved (sigList h) fuel pc.2 pr.2 pt.2 bs hok hres hexp hd⟩

/-- what `module_connections_preserved` says of one module and its exported counterpart -/
def ModKept (h : HModule) (p : PModule) : Prop :=
  p.name = h.name ∧ p.signals = sigList h ∧ All2 (InstKept (sigList h)) h.instances p.instances

/-- non-vacuity: two resistors on a bus, one on a reversed slice of a concatenation; the readings are the designer's bits -/
example : (pipeline 40 (fun _ => some [("p", 2), ("n", 1)])
    ⟨"T", [⟨"s", 2, none⟩, ⟨"t", 2, none⟩], [⟨"a", 1, some "INPUT"⟩],
     [⟨"x", .ext "d" "n", [], [("p", .slice (.concat [.sig "s" 2, .sig "t" 2]) (.range (some 2) (some 0) (some (-1)))), ("n", .sig "a" 1)]⟩,
      ⟨"y", .ext "d" "n", [], [("n", .slice (.sig "t" 2) (.int (-1))), ("p", .sig "s" 2)]⟩]⟩).toOption.map
      (fun p => p.instances.map fun i => i.conns.map fun pc => (pc.1, readTarget p.signals pc.2)) =
    some [[("p", [("t", 0), ("s", 1)]), ("n", [("a", 0)])], [("n", [("t", 1)]), ("p", [("s", 0), ("s", 1)])]] := by
  decide +kernel
end Pipeline

section PipelineArrays
open Hdl21.RoundTrip Hdl21.ExportWF Hdl21.ModulePipe

/-- **The namespace after `ArrayFlattener` is a namespace** when the names the pass hands out are fresh and distinct — which is what
    C05 proves of them (`inventAll_spec`: distinct from every name in the module and from each other) — and the arrays' own
    connections are a dict: the hypothesis of `array_elements_read_their_bits`, discharged from naming-level facts. -/
theorem flattened_namespace_ok (ctx : PRef → Option (List (String × Nat))) (nm : String → Nat → String) (arrs : List HArr) (h h' : HModule)
    (hm : ModOK ctx h) (hac : ∀ a ∈ arrs, (a.conns.map (·.1)).Nodup)
    (hnames : (h.instances.map (·.name) ++ arrs.reverse.flatMap (fun a => (List.range a.n).map (nm a.name))).Nodup)
    (hf : flattenArrays ctx nm arrs.reverse h = .ok h') : ModOK ctx h' := by
  obtain ⟨m1, m2, m3, _, m5, m6⟩ := hm
  obtain ⟨elss, hall, rfl⟩ := flattenArrays_spec hf
  have hn := hall.imp fun _ _ he => expandArr_names he
  refine ⟨m1, m2, m3, ?_, fun r hr => ?_, m6⟩
  · rwa [List.map_append, hn.map_flatten fun _ _ he => he.1]
  · rcases List.mem_append.mp hr with hr | hr
    · exact m5 r hr
    · obtain ⟨els, hels, hrels⟩ := List.mem_flatten.mp hr
      obtain ⟨a, ha, _, hc⟩ := hn.mem_right hels
      exact hc r hrels ▸ hac a (List.mem_reverse.mp ha)

/-- **Element `k` of an instance array ends on its bits.** An F1 module that also has instance arrays goes through the default
    pass list with `ArrayFlattener` in its place (`pipelineA`; the pass itself is the `ArrayPass` model that is compared with the real
    pass by the `arraypass` stream).  If a module comes back — and the namespace after flattening is a namespace (element names
    fresh and distinct: C05's `inventAll_spec`) — then for every array `a`, every `k < a.n`, there is an exported instance called
    what the pass called element `k`, of the array's target, with the array's ports in order, and on port `pn` of width `w`,
    wired in the source to the expression `c`: either `c` is `w` bits wide and the element reads all of `c` (every element the
    same: broadcast), or `c` is `n·w` bits wide and bit `b` of the element's port is bit `k·w + b` of `c`. -/
theorem array_elements_read_their_bits (fuel : Nat) (ctx : PRef → Option (List (String × Nat))) (nm : String → Nat → String)
    (arrs : List HArr) (h : HModule) (p : PModule)
    (hm : ∀ h', flattenArrays ctx nm arrs.reverse h = .ok h' → ModOK ctx h')
    (hp : pipelineA fuel ctx nm arrs h = .ok p) :
    ∀ a ∈ arrs, ∀ ports, ctx a.ref = some ports → ∀ k, k < a.n →
      ∃ pi ∈ p.instances, pi.name = nm a.name k ∧ pi.ref = a.ref ∧
        ∀ (j : Nat) pn c, a.conns[j]? = some (pn, c) → ∃ t w bs, pi.conns[j]? = some (pn, t) ∧ lookup pn ports = some w ∧ c.denote = .ok bs ∧
          ((bs.length = w ∧ readTarget (sigList h) t = bs.map bitNat) ∨
           (bs.length = a.n * w ∧ ∀ b, b < w → (readTarget (sigList h) t)[b]? = (bs[k * w + b]?).map bitNat)) := by
  obtain ⟨_, _, _, h', hf, hp⟩ := pipelineA_ok_iff.mp hp
  obtain ⟨elss, hall, rfl⟩ := flattenArrays_spec hf
  have hkept : All2 (InstKept (sigList h)) (h.instances ++ elss.flatten) p.instances :=
    (module_connections_preserved fuel ctx _ p (hm _ hf) hp).2.2
  intro a ha ports hctx k hk
  obtain ⟨els, hels, hexp⟩ := hall.mem_left (List.mem_reverse.mpr ha)
  obtain ⟨ports', hc', _, hspec⟩ := expandArr_spec hexp
  cases hctx.symm.trans hc'
  obtain ⟨ri, hri, hname, href, _, hcs⟩ := hspec.getElem?.2 k k (List.getElem?_range hk)
  obtain ⟨pi, hpim, p1, p2, _, pcs⟩ := hkept.mem_left
    (List.mem_append_right _ (List.mem_flatten.mpr ⟨els, hels, List.mem_of_getElem? hri⟩))
  refine ⟨pi, hpim, p1.trans hname, p2.trans href, fun j pn c hj => ?_⟩
  -- connection `j`: the array's `c`, the element's `rc` (`ElemConn`), the exported `pt`
  obtain ⟨rc, hrc, e1, w, cw, hl, hw, hcase⟩ := hcs.getElem?.2 j (pn, c) hj
  obtain ⟨pt, hpt, e2, bs', hd', hread⟩ := pcs.getElem?.2 j rc hrc
  obtain ⟨bs, hd, hlen⟩ := width_denote hw
  refine ⟨pt.2, w, bs, by rw [hpt]; exact congrArg some (Prod.ext (e2.trans e1) rfl), hl, hd, ?_⟩
  rcases hcase with ⟨h1, hrc2⟩ | ⟨h1, h2, hrc2⟩
  · rw [hrc2, hd] at hd'
    cases hd'
    exact .inl ⟨hlen.trans h1.symm, hread⟩
  · have hw0 : 0 < w := Nat.pos_of_ne_zero fun h0 => h1 (by rw [← h2, h0, Nat.zero_mul])
    have hlen' : bs.length = a.n * w := by rw [hlen, ← h2, Nat.mul_comm]
    obtain ⟨es', hes', _, hbits⟩ := array_element_bits c bs a.n w k hd hlen' hk hw0
    rw [hrc2, hes'] at hd'
    cases hd'
    exact .inr ⟨hlen', fun b hb => by rw [hread, List.getElem?_map, hbits b hb]⟩

/-- the same with the naming-level hypothesis: the module's namespace is a namespace, the arrays' connections are dicts, and the
    names handed to the elements are fresh and distinct (C05) -/
theorem array_elements_read_their_bits_of_fresh_names (fuel : Nat) (ctx : PRef → Option (List (String × Nat))) (nm : String → Nat → String)
    (arrs : List HArr) (h : HModule) (p : PModule) (hm : ModOK ctx h) (hac : ∀ a ∈ arrs, (a.conns.map (·.1)).Nodup)
    (hnames : (h.instances.map (·.name) ++ arrs.reverse.flatMap (fun a => (List.range a.n).map (nm a.name))).Nodup)
    (hp : pipelineA fuel ctx nm arrs h = .ok p) :
    ∀ a ∈ arrs, ∀ ports, ctx a.ref = some ports → ∀ k, k < a.n →
      ∃ pi ∈ p.instances, pi.name = nm a.name k ∧ pi.ref = a.ref ∧
        ∀ (j : Nat) pn c, a.conns[j]? = some (pn, c) → ∃ t w bs, pi.conns[j]? = some (pn, t) ∧ lookup pn ports = some w ∧ c.denote = .ok bs ∧
          ((bs.length = w ∧ readTarget (sigList h) t = bs.map bitNat) ∨
           (bs.length = a.n * w ∧ ∀ b, b < w → (readTarget (sigList h) t)[b]? = (bs[k * w + b]?).map bitNat)) :=
  array_elements_read_their_bits fuel ctx nm arrs h p (fun h' hf => flattened_namespace_ok ctx nm arrs h h' hm hac hnames hf) hp

/-- … and the module that comes back — elements and all — has none of the module-level defects C06 lists (`module_pipeline_wf` on
    the flattened module, whose namespace `flattened_namespace_ok` provides) -/
theorem array_module_wf (fuel : Nat) (ctx : PRef → Option (List (String × Nat))) (nm : String → Nat → String)
    (arrs : List HArr) (h : HModule) (p : PModule) (hm : ModOK ctx h) (hac : ∀ a ∈ arrs, (a.conns.map (·.1)).Nodup)
    (hnames : (h.instances.map (·.name) ++ arrs.reverse.flatMap (fun a => (List.range a.n).map (nm a.name))).Nodup)
    (hp : pipelineA fuel ctx nm arrs h = .ok p) :
    ∀ (pkg : Package) (earlier : List PModule), (∀ r, targetPorts pkg earlier r = ctx r) → moduleProblems pkg earlier p = [] := by
  obtain ⟨_, _, _, h', hf, hp⟩ := pipelineA_ok_iff.mp hp
  exact Hdl21.Props.C06.module_pipeline_wf fuel ctx h' p (flattened_namespace_ok ctx nm arrs h h' hm hac hnames hf) hp

/-- non-vacuity: a three-element array on a six-bit bus with a shared clock; element 1 reads bits 2 and 3 -/
example :
    (pipelineA 40 (fun _ => some [("d", 2), ("ck", 1)]) (fun a k => s!"{a}_{k}")
      [⟨"arr", .ext "d" "E", [], 3, [("d", .sig "bus" 6), ("ck", .sig "clk" 1)]⟩]
      ⟨"T", [⟨"bus", 6, none⟩, ⟨"clk", 1, none⟩], [], []⟩).toOption.map
      (fun p => p.instances.map fun i => i.conns.map fun pc => (pc.1, readTarget p.signals pc.2)) =
    some [[("d", [("bus", 0), ("bus", 1)]), ("ck", [("clk", 0)])],
          [("d", [("bus", 2), ("bus", 3)]), ("ck", [("clk", 0)])],
          [("d", [("bus", 4), ("bus", 5)]), ("ck", [("clk", 0)])]] := by decide +kernel
end PipelineArrays

section Hierarchy
open Hdl21.RoundTrip Hdl21.ModulePipe Hdl21.Props.C06

/-- **C01 for a whole F1 design**: when the modules of a design go through the composed pass list and the exporter, children
    first (`pipelineDesign`), the package holds one module per module of the design, in order, and in each of them every
    instance — of a leaf or of a module exported before — has on every port, bit *i* for bit *i*, the signal bits the designer's
    expression denotes.  A child's port *is* its signal of that name (same bits, same order: `p.signals = sigList h`), so the nets
    of the hierarchy — glued at ports, bit to bit — are the nets the designer's connections induce, level by level. -/
theorem design_connections_preserved (fuel : Nat) (exts : List PExt) (hext : ∀ e ∈ exts, (e.ports.map (·.1)).Nodup) :
    ∀ (hs : List HModule) (acc mods : List PModule), (∀ h ∈ hs, ModOK₀ h) → (∀ m ∈ acc, (m.ports.map (·.1)).Nodup) →
      pipelineDesign fuel exts hs acc = .ok mods → ∃ new, mods = acc ++ new ∧ All2 ModKept hs new := by
  intro hs acc mods hm hacc hp
  obtain ⟨new, hnew, hr⟩ := pipelineDesign_spec fuel exts hext hm hacc hp
  exact ⟨new, hnew, hr.all2.imp fun _ _ ⟨_, _, hmod, h1⟩ => module_connections_preserved fuel _ _ _ hmod h1⟩
end Hierarchy

end Hdl21.Props.C01