/-
# C17 — Simulation input export is complete and faithful

For every `Sim` (any attributes in any order, sweep / Monte-Carlo nesting of any depth — `SimExport.lean`):
* `export_rejects_bad_testbench`, `export_accepts_testbench`   exported iff the testbench has exactly one port and
                               that port is scalar — and then export never fails;
* `export_entries`             `top` is the testbench's name; controls and options are the attributes of those kinds,
                               one entry each, in the original order, translated field by field; the analyses are the
                               analysis attributes in the original order and nesting, equal to the originals in everything
                               but the names (`strip`) — inner analyses of sweeps and Monte-Carlos included;
* `every_attr_exported_once`   the three lists together have exactly one entry per attribute;
* `names_kept_and_distinct`    a named analysis keeps its name, at its position; if the designer's names are distinct,
                               all names in the output are distinct (unnamed analyses get fresh `Analysis{j}`, never one
                               the designer used);
* `save_forms`                 each of the six documented save-target forms is translated (mode / one name / the names
                               joined by commas), none refused.
Numeric fields are carried as exact values; "the float nearest each prefixed value" is decided by the correspondence
against `fractions.Fraction` (Lean's `Float` is opaque to the kernel).
-/
import Hdl21Model.Lemmas.SimExport
namespace Hdl21.Props.C17
open Hdl21.SimExport

/-- A testbench that does not have exactly one scalar port is rejected. -/
theorem export_rejects_bad_testbench (s : Sim) (h : s.tbPorts ≠ [1]) : exportSim s = none := by
  obtain ⟨_, _, _, he, _⟩ := exportSim_eq s
  rw [he, if_neg h]

/-- … and every other `Sim` is exported. -/
theorem export_accepts_testbench (s : Sim) (h : s.tbPorts = [1]) : (exportSim s).isSome = true := by
  obtain ⟨_, _, _, he, _⟩ := exportSim_eq s
  rw [he, if_pos h]; rfl

theorem every_attr_exported_once (attrs : List Attr) :
    (analyses attrs).length + (ctrls attrs).length + (opts attrs).length = attrs.length := by
  induction attrs with
  | nil => rfl
  | cons a r ih =>
    rw [List.length_cons, ← ih]
    cases a <;> simp +arith only [analyses, ctrls, opts, List.length_cons]

theorem export_entries (s : Sim) (inp : SimInput) (h : exportSim s = some inp) :
    inp.top = s.tbName ∧
    inp.ctrls = (ctrls s.attrs).map exportCtrl ∧
    inp.opts = opts s.attrs ∧
    stripL inp.an = stripL (analyses s.attrs) ∧
    inp.an.length + inp.ctrls.length + inp.opts.length = s.attrs.length := by
  obtain ⟨an, _, _, he, hs, _⟩ := exportSim_eq s
  rw [he] at h
  split at h <;> cases h
  refine ⟨rfl, rfl, rfl, hs, ?_⟩
  have hl : an.length = (analyses s.attrs).length := by rw [← length_stripL, hs, length_stripL]
  simp only [hl, List.length_map]
  exact every_attr_exported_once s.attrs

/-- Named analyses keep their names, position by position (in export order, nesting included); and if the
    designer's names are pairwise distinct, so are all names of the output. -/
theorem names_kept_and_distinct (s : Sim) (inp : SimInput) (h : exportSim s = some inp) :
    ∃ names : List String,
      slotsL inp.an = names.map some ∧
      names.length = (slotsL (analyses s.attrs)).length ∧
      (∀ (i : Nat) (n : String), (slotsL (analyses s.attrs))[i]? = some (some n) → names[i]? = some n) ∧
      ((userNamesL (analyses s.attrs)).Nodup → names.Nodup) ∧
      (∀ x ∈ names, x ∈ userNamesL (analyses s.attrs) ∨ ∃ j, x = fmt j ∧ x ∉ userNamesL (analyses s.attrs)) := by
  obtain ⟨an, ns, k, he, _, hns, hsl⟩ := exportSim_eq s
  rw [he] at h
  split at h <;> cases h
  rw [userNamesL_eq] at hns ⊢
  obtain ⟨hlen, hkeep, inv, hp, hinv, hfree⟩ := assign_spec hns
  exact ⟨ns, hsl, hlen, hkeep,
    fun hu => hp.nodup_iff.2 (List.nodup_append.2 ⟨hu, hinv, fun a ha b hb e => (hfree b hb).1 (e ▸ ha)⟩),
    fun x hx => (List.mem_append.1 (hp.mem_iff.1 hx)).imp_right fun hx =>
      let ⟨hu, j, _, e⟩ := hfree x hx
      ⟨j, e, hu⟩⟩

/-- Every documented form of save target is accepted. -/
theorem save_forms (s : String) (l : List String) :
    exportSave .modeAll = .mode true ∧ exportSave .modeNone = .mode false ∧
    exportSave (.signal s) = .signal s ∧ exportSave (.name s) = .signal s ∧
    exportSave (.signals l) = .signal (",".intercalate l) ∧ exportSave (.names l) = .signal (",".intercalate l) :=
  ⟨rfl, rfl, rfl, rfl, rfl, rfl⟩

/-- Controls are translated one to one (no control is dropped, merged or reordered). -/
theorem ctrl_translation (c : Ctrl SaveTarget) :
    (∀ p, c = .include p → exportCtrl c = .include p) ∧
    (∀ p q, c = .lib p q → exportCtrl c = .lib p q) ∧
    (∀ a n e, c = .meas a n e → exportCtrl c = .meas a n e) ∧
    (∀ n v, c = .param n v → exportCtrl c = .param n v) ∧
    (∀ t, c = .literal t → exportCtrl c = .literal t) ∧
    (∀ t, c = .save t → exportCtrl c = .save (exportSave t)) := by
  refine ⟨?_, ?_, ?_, ?_, ?_, ?_⟩ <;> intros <;> subst_vars <;> rfl

/-! Non-vacuity: a nested sweep with one designer name that looks like an invented one. -/
example :
    let s : Sim := { tbPorts := [1], tbName := "tb", attrs :=
      [.an (.op (some (fmt 0))), .ctrl (.save (.names ["a", "b"])), .an (.sweep none "x" (.points ["1"]) [.tran none "1/1000" none, .op none]),
       .opt "reltol" "1/1000"] }
    (exportSim s).isSome = true ∧ s.tbPorts = [1] := by
  refine ⟨export_accepts_testbench _ rfl, rfl⟩

end Hdl21.Props.C17
