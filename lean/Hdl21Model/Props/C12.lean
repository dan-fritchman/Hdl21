/-
# C12 — Output is reproducible across processes

`order_independent`: whatever order a set of port references is iterated in (any permutation — the
model of CPython's address- and seed-dependent set iteration), `ordered` returns the same list; hence
everything computed from it — the order of an instance's connections, the invented names — is the same
in every process.  The runtime facts the model cannot exhibit (CPython's `id`/seed based hashing,
allocation history, protobuf's deterministic serialisation, md5) are covered by the correspondence:
N interpreters with different PYTHONHASHSEED and random unrelated work, byte-identical packages and
netlists.
`ordered_portrefs_independent`: the key as written, `(instance name, port name)` compared as tuples, identifies the
references held by the instances of one module (instance names are distinct there) — and `instance_name_alone_is_not_a_key`:
the instance name alone does not.
`group_members_order_independent`: the group `ResolvePortRefs.follow` discovers is the same set of references, each once, whatever
order the sets of connected ports are iterated in (`Dfs.dfs_perm`); hence `handled_group_order_independent`: what is computed from
the group after ordering it by an identifying key is the same in every process.
-/
import Hdl21Model.Order
import Mathlib.Data.Prod.Lex
import Mathlib.Data.String.Basic
import Hdl21Model.Lemmas.Dfs
namespace Hdl21.Props.C12
open Hdl21.Order

section Ordered
variable {α κ : Type} [LinearOrder κ]

/-- Sorting by a key that identifies the elements of the set gives one list, whatever order the set
    was enumerated in. (The key only has to tell the members of *this* set apart.) -/
theorem order_independent (key : α → κ) (l l' : List α) (h : l.Perm l')
    (hinj : ∀ a ∈ l, ∀ b ∈ l, key a = key b → a = b) :
    ordered key l = ordered key l' := by
  let r : α → α → Prop := fun a b => key a ≤ key b
  have hp : (l.insertionSort r).Perm (l'.insertionSort r) :=
    ((List.perm_insertionSort r l).trans h).trans (List.perm_insertionSort r l').symm
  refine List.Perm.eq_of_pairwise ?_ (List.pairwise_insertionSort r l) (List.pairwise_insertionSort r l') hp
  exact fun a b ha hb hab hba => hinj a ((List.mem_insertionSort r).1 ha) b (h.mem_iff.2 ((List.mem_insertionSort r).1 hb))
    (le_antisymm hab hba)

/-- Anything computed from the ordered list is independent of the iteration order of the set. -/
theorem computed_from_ordered {β : Type} (key : α → κ) (f : List α → β)
    (l l' : List α) (h : l.Perm l') (hinj : ∀ a ∈ l, ∀ b ∈ l, key a = key b → a = b) :
    f (ordered key l) = f (ordered key l') := by
  rw [order_independent key l l' h hinj]

/-- `ordered` returns exactly the elements of the set. -/
theorem ordered_perm (key : α → κ) (l : List α) : (ordered key l).Perm l :=
  List.perm_insertionSort _ l

/-! ### Non-vacuity: three references, two enumeration orders -/
example : ordered (fun (p : Nat × Nat) => p.1 * 100 + p.2) [(2, 1), (1, 2), (1, 1)]
        = ordered (fun (p : Nat × Nat) => p.1 * 100 + p.2) [(1, 1), (2, 1), (1, 2)] := by decide +kernel

/-! ## the key `ordered()` really uses -/

/-- a reference to a port: the instance (by identity) and the port's name -/
structure PRef where
  inst : Nat
  port : String
  deriving DecidableEq

/-- the key of `portref.ordered`: `(p.inst.name, p.portname)`, compared as Python compares tuples -/
def refKey (name : Nat → String) (p : PRef) : String ×ₗ String := toLex (name p.inst, p.port)

/-- **`ordered()` as written**: the references held by instances of one module come out in one order whatever order the
    set was enumerated in. -/
theorem ordered_portrefs_independent (name : Nat → String) (insts : List Nat)
    (hinj : ∀ a ∈ insts, ∀ b ∈ insts, name a = name b → a = b) (l l' : List PRef) (h : l.Perm l')
    (hl : ∀ p ∈ l, p.inst ∈ insts) :
    ordered (refKey name) l = ordered (refKey name) l' :=
  order_independent (refKey name) l l' h fun a ha b hb hk => by
    -- within one module, instance names distinct, the key tells any two references apart
    obtain ⟨i, p⟩ := a
    obtain ⟨j, q⟩ := b
    obtain ⟨hn, rfl⟩ := Prod.mk.inj (toLex.injective hk)
    cases hinj i (hl _ ha) j (hl _ hb) hn
    rfl

/-- Sorting by the instance name alone is *not* enough: two ports of one instance keep the order the set happened to have. -/
theorem instance_name_alone_is_not_a_key :
    ∃ (l l' : List PRef), l.Perm l' ∧
      ordered (fun p : PRef => p.inst) l ≠ ordered (fun p : PRef => p.inst) l' :=
  ⟨[⟨0, "p"⟩, ⟨0, "q"⟩], [⟨0, "q"⟩, ⟨0, "p"⟩], List.Perm.swap _ _ _, by decide +kernel⟩

end Ordered

/-! ## group discovery (`ResolvePortRefs.follow`) under any iteration order of the back-reference sets -/
section Groups
open Hdl21.Dfs

variable {ν κ : Type} [DecidableEq ν] [LinearOrder κ]

/-- **The group `follow` discovers is the same set whatever order the sets of connected ports are iterated in.**
    `nbrs` and `nbrs'` enumerate, for every port reference, the same neighbours (its connection if that is a reference, and
    the references connected to it — `_connected_ports`, a Python `set`) in two arbitrary orders, as two processes would.
    The depth-first searches visit the nodes in different orders, but whenever both answer they have collected the same
    references, each once. -/
theorem group_members_order_independent (nbrs nbrs' : ν → List ν) (hperm : ∀ a, (nbrs a).Perm (nbrs' a))
    (fuel fuel' : Nat) (p : ν) (g g' : List ν)
    (h : dfs nbrs fuel p [] = some g) (h' : dfs nbrs' fuel' p [] = some g') : g.Perm g' :=
  dfs_perm (fun a _ => (hperm a).mem_iff) h h'

/-- Hence everything a pass computes from a group *after ordering it by a key that identifies its members* — which
    reference gives the implicit signal its name, the order in which the group's ports are re-connected — is the same in
    every process, even where the search itself walked the sets in another order. -/
theorem handled_group_order_independent {β : Type} (key : ν → κ) (f : List ν → β)
    (nbrs nbrs' : ν → List ν) (hperm : ∀ a, (nbrs a).Perm (nbrs' a))
    (fuel fuel' : Nat) (p : ν) (g g' : List ν)
    (h : dfs nbrs fuel p [] = some g) (h' : dfs nbrs' fuel' p [] = some g')
    (hinj : ∀ a ∈ g, ∀ b ∈ g, key a = key b → a = b) :
    f (ordered key g) = f (ordered key g') :=
  computed_from_ordered key f g g' (group_members_order_independent nbrs nbrs' hperm fuel fuel' p g g' h h') hinj

/-- Non-vacuity: a three-node cycle searched with the neighbour lists in two different orders — different discovery orders,
    the same group. -/
example :
    let nb  : Nat → List Nat := fun a => if a = 0 then [1, 2] else if a = 1 then [2, 0] else [0, 1]
    let nb' : Nat → List Nat := fun a => if a = 0 then [2, 1] else if a = 1 then [0, 2] else [1, 0]
    dfs nb 5 0 [] = some [0, 1, 2] ∧ dfs nb' 5 0 [] = some [0, 2, 1] := by decide +kernel

end Groups

end Hdl21.Props.C12
