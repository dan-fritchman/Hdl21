/-
# C02 — Ill-formed designs never yield a package or a netlist

Proved here:
* `repeat_pass_sees_every_module` — a checking pass placed after the last rewriting pass, *with its own
  pass class*, runs on every module below every top in every call, whatever earlier passes and earlier
  calls have completed (the pinned tree's repeats shared a class with the first run and were skipped).
* `bad_index_rejected` — every integer index outside `[-w, w)` and every slice that selects no bit (or
  has step zero) is rejected by `_slice_inner`, for every width (from C03).
* `array_width_rule` — `ArrayFlattener` accepts a connection to an array port exactly when its width is
  the port width (broadcast) or `n` times it, and then hands element `k` bits `[k·w, (k+1)·w)`.
* `portrefs_rejects_iff` — over the model of `ResolvePortRefs` (PortRefs.lean, whole-signal connections): the pass raises
  **exactly** when the module has a port that is neither connected nor referenced, a no-connected port that shares its
  group with another port, or two different declared signals in one group — and never fails to answer (`group_total`:
  the depth-first group discovery terminates within its fuel).
* `conntypes_passes_iff`, `conntypes_rejects` — over the model of `ConnTypes.check_instance` as it runs after flattening (pop
  each port's connection from a copy of `conns`; what is left over has no port): the check returns **exactly** when every port
  of the target is connected to something of its width and nothing else is connected; a missing connection, a connection
  of another width and a connection to a port that does not exist each make it raise.
* `orphanage_passes_iff`, `orphanage_rejects` — over the model of `Orphanage`: the pass returns **exactly** when every
  namespace entry is parented by the module under its own name and every object any connection is made of is parented by it.
* the passes composed on an F1 module and design (ModulePipe.lean): `module_accepts_only_wellformed`, `module_faults_rejected`,
  `module_pipeline_accepts_iff`, `design_accepts_only_wellformed`, `foreign_owner_rejected`, `arrays_accepted_only_wellformed`.
The fault classes beyond F1 (bad references and members, width mismatches behind bundles and references, cycles, module
names) are decided by the correspondence: single-fault mutants of valid designs at every site, with the declarative
`Sem.src` (Design.lean) as the judge of ill-formedness.
-/
import Hdl21Model.Props.C07
import Hdl21Model.Props.C03
import Hdl21Model.Lemmas.PortRefs
import Hdl21Model.Props.C06
namespace Hdl21.Props.C02
open Hdl21.Runner

/-- A pass class that has completed nowhere (its own, fresh `done` set) and meets no failed module runs
    on the visited module and leaves itself `done` on every module below it — in particular the
    post-flattening repeats of `ConnTypes` / `Orphanage` once they are classes of their own. -/
theorem repeat_pass_sees_every_module (sys : Sys S) (hdag : ∀ m c, c ∈ sys.children m → c < m) (k fuel : Nat)
    (st : RState S) (m : Nat) (hfresh : ∀ x, st.done k x = false) (hf : st.failed m = false)
    (hok : (visit sys k (fuel + 1) st m).2 = true) :
    (∃ (r : RState S) (s : S), sys.apply k r.σ m = some s ∧ (visit sys k (fuel + 1) st m).1.σ m = s) ∧
    ∀ x, Reach sys m x → (visit sys k (fuel + 1) st m).1.done k x = true := by
  refine ⟨Props.C07.visit_runs_pass sys k fuel st m (hfresh m) hf hok, ?_⟩
  exact Props.C07.visit_reaches_all sys hdag k (fuel + 1) st m (fun x hx => by rw [hfresh x] at hx; cases hx) hok

/-- Out-of-range integer indices, zero steps and empty selections are rejected for every width. -/
theorem bad_index_rejected (w : Nat) :
    (∀ i : Int, ¬ (-(w : Int) ≤ i ∧ i < w) → ∃ e, sliceInner w (.int i) = .error e) ∧
    (∀ a b st, (pyBits w a b st = none ∨ pyBits w a b st = some []) → ∃ e, sliceInner w (.range a b st) = .error e) :=
  ⟨fun i h => (Props.C03.index_int_reject w i h).1, fun a b st h => (Props.C03.range_reject_iff w a b st).2 h⟩

/-- `arrays.py`: the per-element connection of array element `k`, for a connection of width `cw` to a
    port of width `w` on an array of `n` elements: `none` = rejected. -/
def arrayElement (w n cw k : Nat) : Option (Nat × Nat) :=
  if cw = w then some (0, w)            -- broadcast: every element gets the whole connection
  else if cw = n * w then some (k * w, (k + 1) * w)
  else none

theorem array_width_rule (w n cw k : Nat) :
    ((arrayElement w n cw k).isSome ↔ (cw = w ∨ cw = n * w)) ∧
    (cw ≠ w → cw = n * w → k < n → arrayElement w n cw k = some (k * w, (k + 1) * w) ∧ (k + 1) * w ≤ cw) := by
  unfold arrayElement
  refine ⟨?_, fun h1 h2 hk => ?_⟩
  · by_cases h1 : cw = w
    · simp [h1]
    · rw [if_neg h1]
      simp [h1]
  · rw [if_neg h1, if_pos h2, h2]
    exact ⟨rfl, Nat.mul_le_mul_right w hk⟩

section PortRefs
open Hdl21.PortRefs

/-- `ResolvePortRefs` refuses a module (leaves some port unresolved: raises) exactly when it is ill-formed. -/
theorem portrefs_rejects_iff (m : Mod) (wf : WF m) :
    (∃ p ∈ m.ports, resolvePort m p = none) ↔ IllFormed m :=
  exists_resolvePort_eq_none_iff wf

/-- … and otherwise resolves every port. -/
theorem portrefs_accepts_wellformed (m : Mod) (wf : WF m) (h : ¬ IllFormed m) :
    ∀ p ∈ m.ports, (resolvePort m p).isSome := by
  intro p hp
  cases hr : resolvePort m p with
  | some v => rfl
  | none => exact absurd ((portrefs_rejects_iff m wf).mp ⟨p, hp, hr⟩) h

/-! Non-vacuity: a no-connected port that another port refers to; a port nobody connects or refers to. -/
example : resolvePort ⟨[(0, 0), (1, 0)], [((0, 0), .nc 0), ((1, 0), .pref (0, 0))], 0⟩ (0, 0) = none := by decide +kernel
example : resolvePort ⟨[(0, 0), (1, 0)], [((1, 0), .sig 0)], 1⟩ (0, 0) = none := by decide +kernel
end PortRefs

section ConnTypes
open Hdl21.ConnTypes

/-- The connection check of one instance returns iff every port is connected, with the port's width, and nothing else is. -/
theorem conntypes_passes_iff (io : List (String × Nat)) (conns : List (String × SConn))
    (hio : (io.map (·.1)).Nodup) (hc : (conns.map (·.1)).Nodup) :
    passes io conns = true ↔
      (∀ pw ∈ io, ∃ c, (pw.1, c) ∈ conns ∧ c.width = .ok pw.2) ∧ (∀ kc ∈ conns, kc.1 ∈ io.map (·.1)) :=
  passes_eq_true_iff io conns hio hc

/-- Each of the three faults makes it raise: a port without a connection, a connection of another width (or of none), a
    connection to a port the target does not have. -/
theorem conntypes_rejects (io : List (String × Nat)) (conns : List (String × SConn))
    (hio : (io.map (·.1)).Nodup) (hc : (conns.map (·.1)).Nodup)
    (hbad : (∃ pw ∈ io, pw.1 ∉ conns.map (·.1)) ∨ (∃ pw ∈ io, ∃ c, (pw.1, c) ∈ conns ∧ c.width ≠ .ok pw.2) ∨
            (∃ kc ∈ conns, kc.1 ∉ io.map (·.1))) :
    passes io conns = false := by
  refine Bool.eq_false_iff.mpr fun h => ?_
  obtain ⟨hall, hex⟩ := (passes_eq_true_iff io conns hio hc).mp h
  rcases hbad with ⟨pw, hpw, hno⟩ | ⟨pw, hpw, c, hcm, hw⟩ | ⟨kc, hkc, hno⟩
  · obtain ⟨c, hcm, _⟩ := hall pw hpw
    exact hno (List.mem_map.mpr ⟨(pw.1, c), hcm, rfl⟩)
  · obtain ⟨c', hcm', hw'⟩ := hall pw hpw
    exact hw (snd_eq_of_nodup_fst hc hcm' hcm ▸ hw')
  · exact hno (hex kc hkc)

example : passes [("p", 1), ("n", 2)] [("n", .sig "b" 2), ("p", .slice (.sig "b" 2) (.int 0))] = true ∧
    passes [("p", 1), ("n", 2)] [("n", .sig "b" 2)] = false ∧
    passes [("p", 1)] [("p", .sig "b" 2)] = false ∧
    passes [("p", 1)] [("p", .sig "a" 1), ("q", .sig "a" 1)] = false := by decide +kernel
end ConnTypes

section Ownership
open Hdl21.Orphanage

/-- **`Orphanage` returns exactly when** every entry of the module's namespace is parented by the module and filed under its own
    name, and everything any connection of any instance, array or instance bundle is made of — the Signal or BundleInstance
    itself, the parent of a Slice, each part of a Concat, each member of an AnonymousBundle, the instance behind a PortRef, the
    root bundle behind a BundleRef — is parented by the module. (`owners` is the flat, declarative reading of a connectable;
    `passes` is the recursive check the code runs.) -/
theorem orphanage_passes_iff (me : Nat) (m : OModule) :
    Orphanage.passes me m = true ↔
      (∀ a ∈ m.attrs, a.owner = some me ∧ a.key = a.name) ∧ (∀ c ∈ m.conns, ∀ o ∈ owners c, o = some me) := by
  simp only [Orphanage.passes, Bool.and_eq_true, List.all_eq_true, beq_iff_eq, checkConn_iff]

/-- A signal, bundle or instance owned by nobody or by another module — anywhere inside a connection, however deep in slices,
    concatenations and anonymous bundles — makes it raise; so does a namespace entry parented elsewhere or filed under
    another name than its own. -/
theorem orphanage_rejects (me : Nat) (m : OModule)
    (hbad : (∃ c ∈ m.conns, ∃ o ∈ owners c, o ≠ some me) ∨ (∃ a ∈ m.attrs, a.owner ≠ some me ∨ a.key ≠ a.name)) :
    Orphanage.passes me m = false := by
  refine Bool.eq_false_iff.mpr fun h => ?_
  obtain ⟨ha, hc⟩ := (orphanage_passes_iff me m).mp h
  rcases hbad with ⟨c, hcm, o, ho, hne⟩ | ⟨a, ham, hne⟩
  · exact hne (hc c hcm o ho)
  · exact hne.elim (· (ha a ham).1) (· (ha a ham).2)

/-- A no-connect is parented by nobody and is let through; a reference is judged by the instance (the root bundle) it refers to,
    not by the port (member) named. -/
theorem orphanage_exemptions (me : Nat) (p : String) (path : List String) :
    checkConn me .noconn = true ∧ checkConn me (.pref (some me) p) = true ∧ checkConn me (.bref (some me) path) = true ∧
    checkConn me (.pref none p) = false ∧ checkConn me (.bref (some (me + 1)) path) = false := by
  simp [checkConn]

/-- Non-vacuity: a module that passes; the same with a foreign signal three levels down; with an orphan instance behind a reference. -/
example :
    Orphanage.passes 7 ⟨[⟨"s", "s", some 7⟩], [.concat [.slice (.sig "s" 4 (some 7)) (.int 0), .anon [("x", .pref (some 7) "p")]], .noconn]⟩ = true ∧
    Orphanage.passes 7 ⟨[⟨"s", "s", some 7⟩], [.concat [.sig "s" 4 (some 7), .anon [("x", .slice (.sig "t" 2 (some 8)) (.int 1))]]]⟩ = false ∧
    Orphanage.passes 7 ⟨[⟨"s", "s", some 7⟩], [.pref none "p"]⟩ = false ∧
    Orphanage.passes 7 ⟨[⟨"s", "t", some 7⟩], []⟩ = false := by decide +kernel

end Ownership

section Pipeline
open Hdl21.Pkg Hdl21.RoundTrip Hdl21.ExportWF Hdl21.ModulePipe

/-- a well-formed instance, declaratively: of something defined, every port of it connected to something of the port's width,
    nothing else connected, every connection over signals the module declares (with the widths it declares) -/
def InstWF (ctx : PRef → Option (List (String × Nat))) (ws : List (String × Nat)) (i : HInst) : Prop :=
  ∃ ports, ctx i.ref = some ports ∧ (∀ pw ∈ ports, ∃ c, (pw.1, c) ∈ i.conns ∧ c.width = .ok pw.2) ∧
    (∀ kc ∈ i.conns, kc.1 ∈ ports.map (·.1)) ∧ (∀ kc ∈ i.conns, sigsOK ws kc.2 = true)

/-- `InstWF` walks the target's ports, the pipeline's lemmas (`InstChecked`) the instance's connections -/
theorem instWF_iff_instChecked {ctx : PRef → Option (List (String × Nat))} {h : HModule} {ws : List (String × Nat)}
    (hm : ModOK ctx h) : (∀ i ∈ h.instances, InstWF ctx ws i) ↔ ∀ i ∈ h.instances, InstChecked ctx ws i := by
  refine forall₂_congr fun i hi => ?_
  have hctx := hm.target_ports_nodup
  have hnd := hm.conn_names_nodup i hi
  constructor
  · rintro ⟨ports, hc, h1, h2, h3⟩
    obtain ⟨hall, hcov⟩ := (ports_iff_conns (hctx _ _ hc) hnd).mp ⟨h1, h2⟩
    exact ⟨ports, hc, fun pc hpc => ⟨h3 pc hpc, hall pc hpc⟩, hcov⟩
  · rintro ⟨ports, hc, hall, hcov⟩
    obtain ⟨h1, h2⟩ := (ports_iff_conns (hctx _ _ hc) hnd).mpr ⟨fun pc hpc => (hall pc hpc).2, hcov⟩
    exact ⟨ports, hc, h1, h2, fun pc hpc => (hall pc hpc).1⟩

/-- **Only well-formed modules get through**: if the composed default pass list and the exporter return a module, every
    instance the designer wrote is well-formed — whatever the nesting of slices and concatenations, the widths, the number of
    instances; no reference to an intermediate state. -/
theorem module_accepts_only_wellformed (fuel : Nat) (ctx : PRef → Option (List (String × Nat))) (h : HModule) (p : PModule)
    (hm : ModOK ctx h) (hp : pipeline fuel ctx h = .ok p) :
    ∀ i ∈ h.instances, InstWF ctx (sigList h) i :=
  (instWF_iff_instChecked hm).mpr ((pipeline_spec hm).mp hp).1

/-- **Each fault class of the fragment, planted anywhere, makes the pipeline refuse**: an instance of something undefined; a
    port left unconnected; a connection to a port the target does not have; a connection whose width is not the port's — or
    which has no width at all (an index out of range, an empty or zero-step slice, at any depth of the expression); a
    connection naming a signal the module does not declare (or declares with another width: a stale object). -/
theorem module_faults_rejected (fuel : Nat) (ctx : PRef → Option (List (String × Nat))) (h : HModule)
    (hm : ModOK ctx h) (i : HInst) (hi : i ∈ h.instances) :
    (ctx i.ref = none → ∃ e, pipeline fuel ctx h = .error e) ∧
    (∀ ports pw, ctx i.ref = some ports → pw ∈ ports → pw.1 ∉ i.conns.map (·.1) → ∃ e, pipeline fuel ctx h = .error e) ∧
    (∀ ports kc, ctx i.ref = some ports → kc ∈ i.conns → kc.1 ∉ ports.map (·.1) → ∃ e, pipeline fuel ctx h = .error e) ∧
    (∀ ports pw c, ctx i.ref = some ports → pw ∈ ports → (pw.1, c) ∈ i.conns → c.width ≠ .ok pw.2 →
      ∃ e, pipeline fuel ctx h = .error e) ∧
    (∀ kc ∈ i.conns, sigsOK (sigList h) kc.2 = false → ∃ e, pipeline fuel ctx h = .error e) := by
  -- had the pipeline answered, the instance would be well-formed: each clause contradicts one part of that
  have key : (InstWF ctx (sigList h) i → False) → ∃ e, pipeline fuel ctx h = .error e := fun hq => by
    cases hp : pipeline fuel ctx h with
    | error e => exact ⟨e, rfl⟩
    | ok p => exact (hq (module_accepts_only_wellformed fuel ctx h p hm hp i hi)).elim
  refine ⟨fun hn => key ?_, fun ports pw hc hpw hmiss => key ?_, fun ports kc hc hkc hextra => key ?_,
    fun ports pw c hc hpw hcm hw => key ?_, fun kc hkc hs => key ?_⟩ <;> rintro ⟨_, hc', h1, h2, h3⟩
  · cases hn.symm.trans hc'
  · cases hc.symm.trans hc'
    obtain ⟨c, hcm, _⟩ := h1 pw hpw
    exact hmiss (List.mem_map.mpr ⟨_, hcm, rfl⟩)
  · cases hc.symm.trans hc'
    exact hextra (h2 kc hkc)
  · cases hc.symm.trans hc'
    obtain ⟨c', hcm', hw'⟩ := h1 pw hpw
    exact hw (snd_eq_of_nodup_fst (hm.conn_names_nodup i hi) hcm' hcm ▸ hw')
  · cases (h3 kc hkc).symm.trans hs

/-- **… and nothing well-formed is refused by the passes** (the converse of `module_accepts_only_wellformed`, with `resolve_total`):
    a module of fragment F1 whose namespace is a namespace, all of whose instances are well-formed and whose expressions hold no
    empty concatenation, goes through `Orphanage, ConnTypes, SliceResolver, ConnTypesRepeat, OrphanageRepeat` — with the fuel
    `fuelOf h`, computed from the module.  What is left to the exporter is its one documented refusal, a stepped slice taken
    directly from a Signal (DESIGN 6.0).  So the composed passes accept *exactly* the well-formed modules. -/
theorem module_elaboration_accepts (ctx : PRef → Option (List (String × Nat))) (h : HModule) (hm : ModOK ctx h)
    (hwf : ∀ i ∈ h.instances, InstWF ctx (sigList h) i)
    (hne : ∀ i ∈ h.instances, ∀ pc ∈ i.conns, pc.2.noEmpty = true) :
    ∃ e, elabModule (fuelOf h) ctx h = .ok e :=
  (elabModule_accepts_iff hm hne (Nat.le_refl _)).mpr ((instWF_iff_instChecked hm).mp hwf)

/-- **For unit-step modules the whole pipeline — passes and exporter — accepts exactly the well-formed ones.** If every index in
    every connection is an integer or a unit-step range (what C03 demands be accepted) and no concatenation is empty, then a
    package module comes back **iff** every instance is well-formed.  Nothing ill-formed is exported (C02), nothing well-formed
    is refused (C03's acceptance clause, here for a whole module). -/
theorem module_pipeline_accepts_iff (ctx : PRef → Option (List (String × Nat))) (h : HModule) (hm : ModOK ctx h)
    (hne : ∀ i ∈ h.instances, ∀ pc ∈ i.conns, pc.2.noEmpty = true)
    (hu : ∀ i ∈ h.instances, ∀ pc ∈ i.conns, pc.2.unit = true) :
    (∃ p, pipeline (fuelOf h) ctx h = .ok p) ↔ ∀ i ∈ h.instances, InstWF ctx (sigList h) i :=
  (pipeline_accepts_iff hm hne hu (Nat.le_refl _)).trans (instWF_iff_instChecked hm).symm

/-- non-vacuity: a well-formed module gets through; the same module with bit 2 of a two-bit bus, with a port left open, with a
    three-bit connection on a two-bit port, with a signal of another module, is refused -/
example :
    let ctx : PRef → Option (List (String × Nat)) := fun _ => some [("p", 2), ("n", 1)]
    let mk (cs : List (String × SConn)) : HModule := ⟨"T", [⟨"s", 2, none⟩, ⟨"t", 3, none⟩], [], [⟨"x", .ext "d" "n", [], cs⟩]⟩
    (pipeline 40 ctx (mk [("p", .sig "s" 2), ("n", .slice (.sig "t" 3) (.int 2))])).toOption.isSome = true ∧
    (pipeline 40 ctx (mk [("p", .sig "s" 2), ("n", .slice (.sig "s" 2) (.int 2))])).toOption.isSome = false ∧
    (pipeline 40 ctx (mk [("p", .sig "s" 2)])).toOption.isSome = false ∧
    (pipeline 40 ctx (mk [("p", .sig "t" 3), ("n", .slice (.sig "t" 3) (.int 2))])).toOption.isSome = false ∧
    (pipeline 40 ctx (mk [("p", .sig "u" 2), ("n", .slice (.sig "t" 3) (.int 2))])).toOption.isSome = false := by
  decide +kernel
end Pipeline

section PipelineOwners
open Hdl21.Pkg Hdl21.RoundTrip Hdl21.ModulePipe Hdl21.Orphanage

/-- **A signal owned by another module, or by none, anywhere inside a connection makes the composition refuse** — `Orphanage`
    itself (the owner check of Orphanage.lean, compared with the real pass by the `orphanage` stream) in front of the pipeline:
    one object in one connection of one instance whose `_parent_module` is not this module — at any depth of slices and
    concatenations — and no module is returned. -/
theorem foreign_owner_rejected (fuel : Nat) (ctx : PRef → Option (List (String × Nat))) (me : Nat) (name : String)
    (signals ports : List HSig) (insts : List OInst) (i : OInst) (hi : i ∈ insts) (pc : String × OConn) (hpc : pc ∈ i.conns)
    (o : Owner) (ho : o ∈ owners pc.2) (hne : o ≠ some me) :
    ∃ e, pipelineO fuel ctx me name signals ports insts = .error e := by
  have hfalse : (insts.all fun i => i.conns.all fun pc => checkConn me pc.2) = false := Bool.eq_false_iff.mpr fun hb =>
    hne ((checkConn_iff me pc.2).mp (List.all_eq_true.mp (List.all_eq_true.mp hb i hi) pc hpc) o ho)
  unfold pipelineO
  simp [hfalse]

/-- … and what gets through is over the module's own declared signals, given C18's coherence (what a module parents is what it
    declares): the ownership hypothesis of the F1 theorems, discharged by the pass itself -/
theorem owned_connections_are_declared (me : Nat) (ws : List (String × Nat)) (c : OConn) (s : SConn)
    (hcoh : ∀ n w, (n, w, some me) ∈ sigObjs c → Pkg.lookup n ws = some w)
    (hpass : checkConn me c = true) (hres : erase c = some s) : sigsOK ws s = true :=
  erase_sigsOK me ws c s hcoh hpass hres
end PipelineOwners

section PipelineArrays
open Hdl21.Pkg Hdl21.RoundTrip Hdl21.ExportWF Hdl21.ModulePipe

/-- **An ill-wired instance array yields no module.** If the pass list with `ArrayFlattener` in it (`pipelineA`) returns, every
    array is of something defined, has at least one element, and every connection of it is over the module's own signals, sits
    on a port the target has, and is as wide as that port or `n` times as wide — nothing in between, nothing beyond (the floor
    division of seeds C02-1 / C02-r8-2 accepted `n·w + r`).  What the expanded elements then have to satisfy as instances is
    `module_accepts_only_wellformed` on the flattened module: every port connected, nothing else. -/
theorem arrays_accepted_only_wellformed (fuel : Nat) (ctx : PRef → Option (List (String × Nat))) (nm : String → Nat → String)
    (arrs : List HArr) (h : HModule) (p : PModule) (hp : pipelineA fuel ctx nm arrs h = .ok p) :
    ∀ a ∈ arrs, ∃ ports, ctx a.ref = some ports ∧ 1 ≤ a.n ∧
      ∀ pc ∈ a.conns, sigsOK (sigList h) pc.2 = true ∧
        ∃ w cw, lookup pc.1 ports = some w ∧ pc.2.width = .ok cw ∧ (w = cw ∨ w * a.n = cw) := by
  obtain ⟨horph, _, _, h', hf, _⟩ := pipelineA_ok_iff.mp hp
  obtain ⟨elss, hall, _⟩ := flattenArrays_spec hf
  intro a ha
  obtain ⟨els, _, hexp⟩ := hall.mem_left (List.mem_reverse.mpr ha)
  obtain ⟨ports, hc, hn, hspec⟩ := expandArr_spec hexp
  -- what element 0 is connected to says what the array's connections were
  obtain ⟨r, _, _, _, _, hcs⟩ := hspec.getElem?.2 0 0 (List.getElem?_range hn)
  refine ⟨ports, hc, hn, fun pc hpc => ?_⟩
  obtain ⟨_, _, _, w, cw, hl, hw, hcase⟩ := hcs.mem_left hpc
  exact ⟨horph a ha pc hpc, w, cw, hl, hw, hcase.imp (·.1) (·.2.1)⟩
end PipelineArrays

section Hierarchy
open Hdl21.Pkg Hdl21.RoundTrip Hdl21.ExportWF Hdl21.ModulePipe Hdl21.Props.C06

/-- **A package comes back only for a design that is well-formed in every module**: if `pipelineDesign` (children first, every
    module through the composed pass list and the exporter) returns, then every instance of every module is well-formed against
    what its target *was exported as* — a module exported before it, a declared external module, a primitive.  One ill-formed
    instance anywhere in the hierarchy — `module_faults_rejected` lists the classes — and no package is returned. -/
theorem design_accepts_only_wellformed (fuel : Nat) (exts : List PExt) (hext : ∀ e ∈ exts, (e.ports.map (·.1)).Nodup) :
    ∀ (hs : List HModule) (acc mods : List PModule), (∀ h ∈ hs, ModOK₀ h) → (∀ m ∈ acc, (m.ports.map (·.1)).Nodup) →
      pipelineDesign fuel exts hs acc = .ok mods →
      ∀ h ∈ hs, ∃ earlier, earlier <+: mods ∧ ∀ i ∈ h.instances, InstWF (targetPorts ⟨[], exts⟩ earlier) (sigList h) i := by
  intro hs acc mods hm hacc hp h hh
  obtain ⟨new, rfl, hr⟩ := pipelineDesign_spec fuel exts hext hm hacc hp
  obtain ⟨p, _, earlier, hpre, hmod, h1⟩ := hr.all2.mem_left hh
  exact ⟨earlier, hpre, module_accepts_only_wellformed fuel _ _ p hmod h1⟩
end Hierarchy

end Hdl21.Props.C02
