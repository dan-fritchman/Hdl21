/-
# C13 — Parameter values reach the package unchanged

Exactness of prefixed numbers through `export_prefixed` / `import_prefixed` for every mantissa,
exponent and each of the 21 prefixes; the value dispatch; the ideal-primitive name and parameter
tables (regenerated from the code on every run).  Decimal ↔ text (`str(Decimal)`, `Decimal(text)`)
and float ↔ IEEE bits are CPython's and are covered by the correspondence only.
-/
import Hdl21Model.Params
import Hdl21Model.Lemmas.Prefix
namespace Hdl21.Props.C13
open Params

/-- Every hdl21 prefix has an export entry, and importing what was exported gives the prefix back. -/
theorem prefix_roundtrip : ∀ pv ∈ prefixValues,
    ∃ name, exportPrefix pv = some name ∧ importPrefix name = some pv := by decide +kernel

/-- The exported VLSIR prefix names are members of the vlsir.SIPrefix enum. -/
theorem prefix_names_valid : ∀ e ∈ exportPrefixMap, (vlsirPrefixEnum.map (·.1)).contains e.2 = true := by decide +kernel

/-- Exporter and importer agree on the ideal-primitive names: each hdl21 ideal primitive maps to
    a VLSIR primitive that the importer maps back to it, and all 11 are covered. -/
theorem prim_maps_inverse : ∀ p ∈ exportPrimMap, lookupS p.2 importPrimMap = some p.1 := by decide +kernel
theorem prim_map_total : ∀ n ∈ idealPrimitives, (lookupS n exportPrimMap).isSome = true := by decide +kernel
theorem prim_map_injective : (exportPrimMap.map (·.2)).Nodup := by decide +kernel

/-- Pulse-source parameter renaming: the importer inverts the exporter, every field is carried. -/
theorem pulse_maps_inverse : ∀ p ∈ exportPulseMap, lookupS p.2 importPulseMap = some p.1 := by decide +kernel
theorem pulse_fields_total : ∀ f ∈ pulseFields, (exportPulseMap.map (·.2)).contains f = true := by decide +kernel
theorem pulse_keys_distinct : (exportPulseMap.map (·.1)).Nodup := by decide +kernel

theorem isInt_toInt (d : Dec) (h : Dec.isInt d = true) : ((d.toInt : ℤ) : ℚ) = d.val := by
  unfold Dec.isInt at h
  unfold Dec.toInt Dec.val
  by_cases he : d.e ≥ 0
  · rw [if_pos he, Int.cast_mul, cast_pow_toNat he]
  · -- the division is exact
    rw [if_neg he, decide_eq_true_eq] at h
    have hdvd : (10 ^ (-d.e).toNat : ℤ) ∣ d.c := Int.dvd_of_emod_eq_zero h
    rw [if_neg he, mul_zpow_nonpos (not_le.1 he).le, Int.tdiv_eq_ediv_of_dvd hdvd,
      Int.cast_div hdvd (Int.cast_ne_zero.2 pow_toNat_pos.ne')]

/-- **A prefixed number survives export and import exactly**: same exact value, same prefix,
    for any mantissa length, any exponent and every legal prefix; it is never rejected. -/
theorem prefixed_exact (p : Prefixed) (hp : p.pre ∈ prefixValues) :
    ∃ n name, exportPrefixed p = some (.prefixed n name) ∧
      ∃ q, importPrefixed n name = some q ∧ q.val = p.val ∧ q.pre = p.pre := by
  obtain ⟨name, h1, h2⟩ := prefix_roundtrip p.pre hp
  unfold exportPrefixed
  simp only [h1]
  split
  · rename_i hc
    simp only [Bool.and_eq_true] at hc
    refine ⟨_, name, rfl, ⟨⟨p.number.toInt, 0⟩, p.pre⟩, ?_, ?_, rfl⟩
    · simp [importPrefixed, h2]
    · unfold Prefixed.val Dec.val
      simp only [zpow_zero, mul_one]
      rw [isInt_toInt p.number hc.1]; rfl
  · refine ⟨_, name, rfl, p, ?_, rfl, rfl⟩
    simp [importPrefixed, h2]

/-- Integers are exported as integers only when they fit VLSIR's 64 bits. -/
theorem int64_guard (p : Prefixed) (n : Int) (name : String)
    (h : exportPrefixed p = some (.prefixed (.int64 n) name)) : -(2 ^ 63 : Int) ≤ n ∧ n < 2 ^ 63 := by
  unfold exportPrefixed at h
  split at h
  · cases h
  · -- an `int64` comes out of the guarded branch only
    split at h <;> cases h
    rename_i hc _
    simp only [Bool.and_eq_true, inInt64, decide_eq_true_eq] at hc
    exact hc.2

/-- Each accepted Python value lands in the ParamValue variant that carries it unchanged;
    `None` is omitted; non-string enums and foreign types are rejected. -/
theorem dispatch :
    (exportParamValue .none = some none) ∧
    (∀ s, exportParamValue (.str s) = some (some (.literal s))) ∧
    (∀ s, exportParamValue (.literal s) = some (some (.literal s))) ∧
    (∀ s, exportParamValue (.enumStr s) = some (some (.literal s))) ∧
    (exportParamValue .enumOther = none) ∧ (exportParamValue .other = none) ∧
    (∀ r, exportParamValue (.float r) = some (some (.double r))) ∧
    (∀ i, inInt64 i = true → exportParamValue (.int i) = some (some (.int64 i))) ∧
    (∀ i, inInt64 i = false → exportParamValue (.int i) = none) :=
  ⟨rfl, fun _ => rfl, fun _ => rfl, fun _ => rfl, rfl, rfl, fun _ => rfl, fun _ h => if_pos h,
    fun _ h => if_neg (h ▸ Bool.false_ne_true)⟩

/-! ### Non-vacuity -/
example : exportPrefixed ⟨⟨15, -1⟩, -9⟩ = some (.prefixed (.string ⟨15, -1⟩) "NANO") := by decide +kernel
example : exportPrefixed ⟨⟨10, -1⟩, 3⟩ = some (.prefixed (.int64 1) "KILO") := by decide +kernel
example : exportPrefixed ⟨⟨1, 30⟩, 0⟩ = some (.prefixed (.string ⟨1, 30⟩) "UNIT") := by decide +kernel

end Hdl21.Props.C13
