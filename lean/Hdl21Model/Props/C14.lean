/-
# C14 — Prefixed numbers are exact, totally ordered and hash-consistent

`Prefixed.val : ℚ` is the exact value `c · 10^e · 10^prefix`.  All statements hold for
every mantissa (any number of digits), every exponent and every pair of prefixes —
including exponents that are not among the 21 legal ones.
`float()` ("the nearest float") is **not** provable here — Lean's `Float` is opaque to the
kernel — and is decided by the correspondence only (harness/props/c14.py, against
`float(Fraction)`).
-/
import Hdl21Model.Lemmas.PrefixHash
namespace Hdl21.Props.C14
open Prefixed

/-- Rescaling to any prefix keeps the exact value. -/
theorem scale_exact (p : Prefixed) (t : ℤ) : (p.scale t).val = p.val := scale_val p

theorem scale_lands (p : Prefixed) (t : ℤ) : (p.scale t).pre = t := rfl

/-- `scale()` without argument (closest prefix) keeps the exact value. -/
theorem scale_auto_exact (p : Prefixed) : p.scaleAuto.val = p.val := scale_val p

theorem neg_exact (p : Prefixed) : p.neg.val = -p.val := by
  unfold Prefixed.neg Prefixed.val; rw [Dec.neg_val, neg_mul]

theorem abs_exact (p : Prefixed) : p.abs.val = |p.val| := by
  unfold Prefixed.abs Prefixed.val
  rw [Dec.abs_val, abs_mul, abs_of_pos (ten_pos p.pre)]

theorem add_exact (a b : Prefixed) : (a.add b).val = a.val + b.val :=
  (scale_val _).trans (atCommonPrefix_val Dec.add_val add_mul a b)

theorem sub_exact (a b : Prefixed) : (a.sub b).val = a.val - b.val :=
  (scale_val _).trans (atCommonPrefix_val Dec.sub_val sub_mul a b)

/-- `mul` multiplies the mantissas under the summed prefix and rescales twice. -/
theorem mul_exact (a b : Prefixed) : (a.mul b).val = a.val * b.val := by
  refine (scale_val _).trans ((scale_val ⟨a.number.mul b.number, a.pre + b.pre⟩).trans ?_)
  unfold Prefixed.val
  rw [Dec.mul_val, zpow_add₀ ten_ne, mul_mul_mul_comm]

/-- Comparisons never fail (the model functions are total) and exactly one of `<`, `==`, `>` holds. -/
theorem trichotomy (a b : Prefixed) :
    (a.lt b = true ∧ a.eq b = false ∧ a.gt b = false) ∨
    (a.lt b = false ∧ a.eq b = true ∧ a.gt b = false) ∨
    (a.lt b = false ∧ a.eq b = false ∧ a.gt b = true) := by
  rcases lt_trichotomy (comparable a b).1 (comparable a b).2 with h | h | h
  · exact .inl ⟨decide_eq_true h, decide_eq_false (ne_of_lt h), decide_eq_false (lt_asymm h)⟩
  · exact .inr (.inl ⟨decide_eq_false fun hl => ne_of_lt hl h, decide_eq_true h, decide_eq_false fun hg => ne_of_gt hg h⟩)
  · exact .inr (.inr ⟨decide_eq_false (lt_asymm h), decide_eq_false (ne_of_gt h), decide_eq_true h⟩)

/-- The usual relations between the six operators. -/
theorem relations (a b : Prefixed) :
    a.le b = (a.lt b || a.eq b) ∧ a.ge b = (a.gt b || a.eq b) ∧ a.ne b = !(a.eq b) ∧
    a.ge b = !(a.lt b) ∧ a.gt b = !(a.le b) :=
  ⟨(decide_eq_decide.2 le_iff_lt_or_eq).trans (Bool.decide_or _ _),
    (decide_eq_decide.2 (le_iff_lt_or_eq.trans (or_congr Iff.rfl eq_comm))).trans (Bool.decide_or _ _),
    decide_not, (decide_eq_decide.2 not_lt.symm).trans decide_not, (decide_eq_decide.2 not_le.symm).trans decide_not⟩

/-- Symmetry: `a < b` is `b > a`, `a == b` is `b == a`. -/
theorem symmetric (a b : Prefixed) : a.lt b = b.gt a ∧ a.eq b = b.eq a := by
  -- swapping the arguments swaps the two comparison values: the common prefix is the smaller of the two either way
  have hs : (if b.pre < a.pre then b.pre else a.pre) = (if a.pre < b.pre then a.pre else b.pre) := by
    rw [← min_def_lt, ← min_def_lt, min_comm]
  have swap : comparable b a = ((comparable a b).2, (comparable a b).1) := by
    unfold comparable
    rw [hs]
  unfold Prefixed.lt Prefixed.gt Prefixed.eq
  rw [swap]
  exact ⟨rfl, decide_eq_decide.2 eq_comm⟩

/-- The scaled, un-rounded comparison values, in units of `10^(s-20)`. -/
theorem comparable_spec (a b : Prefixed) :
    let s := if a.pre < b.pre then a.pre else b.pre
    IsRoundHalfEven (a.val * (10 : ℚ) ^ (20 - s)) (comparable a b).1 ∧
    IsRoundHalfEven (b.val * (10 : ℚ) ^ (20 - s)) (comparable a b).2 :=
  ⟨round_scale a, round_scale b⟩

/-- Two numbers denoting the same value are equal. -/
theorem eq_of_same_value (a b : Prefixed) (h : a.val = b.val) :
    a.eq b = true ∧ a.lt b = false ∧ a.gt b = false ∧ a.le b = true ∧ a.ge b = true ∧ a.ne b = false := by
  obtain ⟨ha, hb⟩ := comparable_spec a b
  have := (h ▸ ha).unique hb
  unfold Prefixed.eq Prefixed.lt Prefixed.gt Prefixed.le Prefixed.ge Prefixed.ne
  simp [this]

/-- … and hash equally (the model's hash is CPython's `hash(Decimal)` of the exact value). -/
theorem hash_of_same_value (a b : Prefixed) (h : a.val = b.val) : a.hash = b.hash :=
  hash_congr _ _ ((value_val a).trans (h.trans (value_val b).symm))

/-- Beyond the tolerance — a difference of more than `10^-20` in units of the smaller
    prefix — every comparison agrees with the comparison of the exact values. -/
theorem cmp_agrees (a b : Prefixed)
    (htol : (10 : ℚ) ^ ((if a.pre < b.pre then a.pre else b.pre) - 20) < |a.val - b.val|) :
    (a.lt b = decide (a.val < b.val)) ∧ (a.gt b = decide (a.val > b.val)) ∧ a.eq b = false := by
  obtain ⟨ha, hb⟩ := comparable_spec a b
  have hne : a.val ≠ b.val := sub_ne_zero.1 (abs_pos.1 ((ten_pos _).trans htol))
  unfold Prefixed.lt Prefixed.gt Prefixed.eq
  generalize (if a.pre < b.pre then a.pre else b.pre) = s at *
  generalize (comparable a b).1 = ra at *
  generalize (comparable a b).2 = rb at *
  have hpos := ten_pos (20 - s)
  -- in units of `10^(s-20)` the two values are more than one apart, so their roundings are in the values' order
  have hunits : 1 < |a.val * (10 : ℚ) ^ (20 - s) - b.val * (10 : ℚ) ^ (20 - s)| := by
    rwa [← sub_mul, abs_mul, abs_of_pos hpos, ← div_lt_iff₀ hpos, one_div, ← zpow_neg, neg_sub]
  have hlt : ra < rb ↔ a.val < b.val := (ha.lt_iff_lt hb hunits).trans (mul_lt_mul_iff_of_pos_right hpos)
  have hgt : rb < ra ↔ b.val < a.val :=
    (hb.lt_iff_lt ha (by rwa [abs_sub_comm])).trans (mul_lt_mul_iff_of_pos_right hpos)
  exact ⟨decide_eq_decide.2 hlt, decide_eq_decide.2 hgt,
    decide_eq_false fun e => (lt_or_gt_of_ne hne).elim (fun h => (hlt.2 h).ne e) fun h => (hgt.2 h).ne' e⟩

/-- `int()` is the integer part (truncation toward zero) of the exact value. -/
theorem int_is_trunc (p : Prefixed) :
    |(p.toInt : ℚ)| ≤ |p.val| ∧ |p.val| < |(p.toInt : ℚ)| + 1 ∧ 0 ≤ (p.toInt : ℚ) * p.val :=
  value_val p ▸ Dec.toInt_spec p.value

/-! ### Non-vacuity -/
example : (⟨⟨1000, 0⟩, -3⟩ : Prefixed).eq ⟨⟨1, 0⟩, 0⟩ = true := by decide
example : (⟨⟨1000, 0⟩, -3⟩ : Prefixed).hash = (⟨⟨1, 0⟩, 0⟩ : Prefixed).hash := by decide
example : (⟨⟨1, 0⟩, 0⟩ : Prefixed).gt ⟨⟨1, 0⟩, -9⟩ = true := by decide
example : (⟨⟨1500, 0⟩, -3⟩ : Prefixed).toInt = 1 := by decide

end Hdl21.Props.C14
