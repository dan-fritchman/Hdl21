/-
# C10 — Bundle ports flatten to the documented names, directions and visibility

`flatten` mirrors `flatten_bundle_inst_helper`; `leafAt`/`dirRule` are the documented rule
stated per leaf path.  The theorems hold for bundle definition trees of any depth and fan-out.
-/
import Hdl21Model.Lemmas.Bundles
import Hdl21Model.Lemmas.List
import Hdl21Model.Lemmas.MapM
namespace Hdl21.Props.C10
open Hdl21.Bundles

/-- `PortDir.flipped` (regenerated from the code) swaps input and output, fixes the rest. -/
theorem flipped_table :
    Dir.flipped .input = .output ∧ Dir.flipped .output = .input ∧
    Dir.flipped .inout = .inout ∧ Dir.flipped .none = .none := by decide +kernel

theorem flipped_involutive : ∀ d : Dir, d.flipped.flipped = d := by intro d; cases d <;> rfl

/-- The direction the code computes for one leaf is the documented rule. -/
theorem leaf_dir (flip : Bool) (role : Option String) (l : Leaf) :
    (leafOut true flip role l).dir = dirRule l flip role ∧
    (leafOut true flip role l).isPort = true ∧
    (leafOut true flip role l).width = l.width ∧ (leafOut true flip role l).path = [l.name] := by
  rw [leafOut_eq]
  exact ⟨rfl, rfl, rfl, rfl⟩

/-- Leaves of a non-port bundle instance become internal, undirected signals. -/
theorem leaf_internal (flip : Bool) (role : Option String) (l : Leaf) :
    leafOut false flip role l = ⟨[l.name], l.width, false, .none⟩ := rfl

mutual
/-- One flattened signal per leaf. -/
theorem flatten_count (p f : Bool) (r : Option String) : (t : BTree) →
    (flatten p f r t).length = leafCount t
  | .node sigs subs => by
    unfold flatten leafCount
    rw [List.length_append, List.length_map, flattenSubs_count p f subs]
theorem flattenSubs_count (p f : Bool) : (subs : List (String × Bool × Option String × BTree)) →
    (flattenSubs p f subs).length = leafCountSubs subs
  | [] => by unfold flattenSubs leafCountSubs; rfl
  | (n, fl, r, t) :: rest => by
    unfold flattenSubs leafCountSubs
    rw [List.length_append, List.length_map, flatten_count p _ r t, flattenSubs_count p f rest]
end

/-- Names inside one bundle definition are distinct (they are dictionary keys). -/
def nodupNames (sigs : List Leaf) (subs : List (String × Bool × Option String × BTree)) : Prop :=
  (sigs.map (·.name) ++ subs.map (·.1)).Nodup

mutual
inductive WF : BTree → Prop
  | node (sigs subs) : nodupNames sigs subs → WFSubs subs → WF (.node sigs subs)
inductive WFSubs : List (String × Bool × Option String × BTree) → Prop
  | nil : WFSubs []
  | cons (n f r t rest) : WF t → WFSubs rest → WFSubs ((n, f, r, t) :: rest)
end

mutual
/-- Every flattened signal is the image of the leaf at its path, with width, visibility and
    direction given by the documented rule (parity of flips on the path, role of the declaring
    instance). -/
theorem flatten_sound (p f : Bool) (r : Option String) : (t : BTree) → WF t →
    ∀ x ∈ flatten p f r t, ∃ l par r', leafAt f r t x.path = some (l, par, r') ∧
      x.width = l.width ∧ x.isPort = p ∧ x.dir = (if p then dirRule l par r' else .none)
  | .node sigs subs, hwf => by
    intro x hx
    cases hwf with
    | node _ _ hnd hws =>
    unfold flatten at hx
    rcases List.mem_append.1 hx with h | h
    · obtain ⟨l, hl, rfl⟩ := List.mem_map.1 h
      have hnd' : (sigs.map (·.name)).Nodup := (List.nodup_append.1 hnd).1
      rw [leafOut_eq]
      -- names are distinct: the leaf found under `l`'s name is `l`
      have hfind : sigs.find? (fun x => x.name = l.name) = some l := find?_key_self Leaf.name hnd' hl
      exact ⟨l, f, r, by simp only [leafAt, hfind], rfl, rfl, rfl⟩
    · -- in a sub-bundle: the path starts with a sub-instance name, which is not a leaf name
      have hnds : (subs.map (·.1)).Nodup := (List.nodup_append.1 hnd).2.1
      obtain ⟨n, rest, hpath, hne, _, l, par, r', hla, hrest⟩ := flattenSubs_sound p f subs hws hnds x h
      refine ⟨l, par, r', ?_, hrest⟩
      rw [hpath]
      cases rest with
      | nil => exact absurd rfl hne
      | cons a b => simp only [leafAt]; exact hla
theorem flattenSubs_sound (p f : Bool) : (subs : List (String × Bool × Option String × BTree)) →
    WFSubs subs → (subs.map (·.1)).Nodup →
    ∀ x ∈ flattenSubs p f subs, ∃ n rest, x.path = n :: rest ∧ rest ≠ [] ∧ n ∈ subs.map (·.1) ∧
      ∃ l par r', leafAtSubs f subs n rest = some (l, par, r') ∧
        x.width = l.width ∧ x.isPort = p ∧ x.dir = (if p then dirRule l par r' else .none)
  | [], _, _ => by intro x hx; unfold flattenSubs at hx; cases hx
  | (m, fl, r, t) :: more, hws, hnd => by
    intro x hx
    simp only [List.map_cons, List.nodup_cons] at hnd
    cases hws with
    | cons _ _ _ _ _ hwt hwm =>
    unfold flattenSubs at hx
    rcases List.mem_append.1 hx with h | h
    · obtain ⟨y, hy, rfl⟩ := List.mem_map.1 h
      obtain ⟨l, par, r', hla, hrest⟩ := flatten_sound p _ r t hwt y hy
      refine ⟨m, y.path, rfl, ?_, List.mem_cons_self, l, par, r', ?_, hrest⟩
      · intro he; rw [he] at hla; cases t; simp [leafAt] at hla
      · rw [leafAtSubs, if_pos rfl]; exact hla
    · obtain ⟨n, rest, hpath, hne, hmem, l, par, r', hla, hrest⟩ := flattenSubs_sound p f more hwm hnd.2 x h
      refine ⟨n, rest, hpath, hne, List.mem_cons_of_mem _ hmem, l, par, r', ?_, hrest⟩
      have hmn : m ≠ n := by
        intro he; rw [he] at hnd; exact hnd.1 hmem
      rw [leafAtSubs, if_neg hmn]; exact hla
end

/-- Both sides of a bundle connection agree on which flattened port carries which member:
    every connection made pairs the instance-side port of a member path with the parent-side
    signal of the same path, and nothing is connected if a member is missing. -/
theorem both_sides_agree (pi qi : String) (ps qs : List Flat) (cs : List (String × String))
    (h : connectByPath pi qi qs ps = some cs) :
    cs.length = ps.length ∧
    ∀ c ∈ cs, ∃ p ∈ ps, ∃ q ∈ qs, q.path = p.path ∧ c = (flatName pi p.path, flatName qi p.path) := by
  rw [connectByPath_eq_mapM, mapM_eq_some_iff] at h
  refine ⟨h.length_eq.symm, fun c hc => ?_⟩
  obtain ⟨p, hp, hpc⟩ := h.mem_right hc
  obtain ⟨q, hf, rfl⟩ := Option.map_eq_some_iff.mp hpc
  have hq : q.path = p.path := by simpa using List.find?_some hf
  exact ⟨p, hp, q, List.mem_of_find?_eq_some hf, hq, by rw [hq]⟩

/-- The flattened name is the instance name and the member path joined by underscores. -/
example : flatName "p" ["a", "x"] = "p_a_x" := by decide +kernel

/-! ### Non-vacuity: a three-level tree with flips at two levels -/
example :
    let leaf : Leaf := ⟨"x", 1, true, .input, none, none⟩
    let inner : BTree := .node [leaf] []
    let mid : BTree := .node [leaf] [("i", true, none, inner)]
    let top : BTree := .node [] [("m", false, none, mid)]
    (flatten true true none top).map (fun f => (f.path, f.dir)) =
      [(["m", "x"], .output), (["m", "i", "x"], .input)] := by decide +kernel

end Hdl21.Props.C10
