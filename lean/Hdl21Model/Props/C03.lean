/-
# C03 — Indexing and concatenation follow Python sequence semantics

Property theorems only. Helper lemmas live in `Lemmas/Slice.lean`, `Lemmas/Conn.lean`, `Lemmas/Resolve*.lean`, `Lemmas/Export.lean`.
Every statement is for all widths, indices, bounds, steps and nesting depths.
-/
import Hdl21Model.Lemmas.ResolveTotal
import Hdl21Model.Lemmas.ResolveUnit
import Hdl21Model.Lemmas.ResolveNF
namespace Hdl21.Props.C03

/-- An in-range integer index is accepted and selects exactly bit `i mod w`
    (which is what Python selects), with width one. -/
theorem index_int_ok (w : Nat) (i : Int) (hlo : -(w : Int) ≤ i) (hhi : i < w) :
    ∃ s, sliceInner w (.int i) = .ok s ∧ s.bits = [i % (w : Int)] ∧ s.width = 1 ∧
         pyIndex w i = some (i % (w : Int)) :=
  ⟨_, sliceInner_int_ok_iff.2 ⟨⟨hlo, hhi⟩, rfl⟩, bits_single _, rfl, if_pos ⟨hlo, hhi⟩⟩

/-- Any other integer index is rejected (by hdl21 and by Python alike). -/
theorem index_int_reject (w : Nat) (i : Int) (h : ¬ (-(w : Int) ≤ i ∧ i < w)) :
    (∃ e, sliceInner w (.int i) = .error e) ∧ pyIndex w i = none := by
  refine ⟨?_, if_neg h⟩
  cases hs : sliceInner w (.int i) with
  | error e => exact ⟨e, rfl⟩
  | ok s => exact absurd (sliceInner_int_ok_iff.1 hs).1 h

/-- An accepted range slice denotes exactly Python's selection, in Python's order;
    its reported width is the number of selected bits; it is non-empty; and every
    selected bit lies inside the parent (so no package names a bit outside its signal). -/
theorem range_spec (w : Nat) (a b st : Option Int) (s : Inner)
    (h : sliceInner w (.range a b st) = .ok s) :
    pyBits w a b st = some s.bits ∧ s.width = s.bits.length ∧ s.bits ≠ [] ∧
    (∀ k ∈ s.bits, 0 ≤ k ∧ k < w) ∧ 0 ≤ s.bot ∧ s.bot < s.top ∧ s.top ≤ w := by
  have wf := sliceInner_wf h
  exact ⟨by rw [pyBits_eq_sliceInner, h], wf.bits_length, wf.bits_ne_nil, wf.inrange, wf.bounds⟩

/-- A range slice is rejected exactly when Python raises (zero step) or selects no bit. -/
theorem range_reject_iff (w : Nat) (a b st : Option Int) :
    (∃ e, sliceInner w (.range a b st) = .error e) ↔
    (pyBits w a b st = none ∨ pyBits w a b st = some []) := by
  cases hs : sliceInner w (.range a b st) with
  | error e => exact ⟨fun _ => pyBits_of_reject hs, fun _ => ⟨e, rfl⟩⟩
  | ok s =>
    rw [pyBits_eq_sliceInner, hs]
    refine ⟨nofun, fun h => ?_⟩
    rcases h with h | h
    · cases h
    · exact absurd (Option.some.inj h) (sliceInner_wf hs).bits_ne_nil

/-- Every non-empty unit-step range is accepted (whatever the parent kind: the
    Python `__getitem__` is one shared decorator and `_slice_inner` sees only the width). -/
theorem range_unit_accept (w : Nat) (a b : Option Int) (st : Option Int)
    (hst : st = none ∨ st = some 1) (ks : List Int)
    (hpy : pyBits w a b st = some ks) (hne : ks ≠ []) :
    ∃ s, sliceInner w (.range a b st) = .ok s ∧ s.bits = ks ∧ s.step = 1 := by
  cases hs : sliceInner w (.range a b st) with
  | error e =>
    rcases pyBits_of_reject hs with h | h <;> rw [h] at hpy
    · cases hpy
    · exact absurd (Option.some.inj hpy).symm hne
  | ok s =>
    rw [pyBits_eq_sliceInner, hs] at hpy
    exact ⟨s, rfl, Option.some.inj hpy, sliceInner_unit_step (by rcases hst with rfl | rfl <;> rfl) hs⟩

/-- Unit-step slices are contiguous ascending runs `bot … top-1`: the reading
    `export_slice` uses (`top-1` inclusive down to `bot`). -/
theorem unit_step_bits (w : Nat) (idx : Index) (s : Inner)
    (h : sliceInner w idx = .ok s) (h1 : s.step = 1) :
    s.bits = arith s.bot 1 (s.top - s.bot).toNat ∧ s.width = s.top - s.bot :=
  (sliceInner_wf h).unit_bits h1

/-! ### Python-oracle sanity: the spec says what one expects on the common cases -/

/-- `x[:]` selects every bit in order. -/
theorem pyBits_full (w : Nat) (hw : 0 < w) :
    pyBits w none none none = some ((List.range w).map (fun (k : Nat) => (k : Int))) := by
  -- no bounds, no step: the adjusted pair is `(0, w)`, the step `1`, `pyLen 0 w 1 = (w - 0 - 1) / 1 + 1 = w`; `simp` evaluates that
  unfold pyBits pyAdjust pyLen arith
  simp [hw]

/-- `x[a:b]` with `0 ≤ a < b ≤ w` selects `a … b-1`. -/
theorem pyBits_simple (w : Nat) (a b : Nat) (hab : a < b) (hb : b ≤ w) :
    pyBits w (some a) (some b) none = some ((List.range (b - a)).map (fun (k : Nat) => (a : Int) + k)) := by
  rw [(range_spec w _ _ _ _ (sliceInner_run w a b hab hb)).1]
  exact congrArg some (List.map_congr_left fun k _ => by rw [Int.mul_one])

/-! ### Nested connectables: width, concatenation, and the SliceResolver -/

/-- The reported width of any connectable (signal, slice, concatenation, arbitrarily nested) is the
    number of bits it denotes, and it has a denotation whenever it has a width. -/
theorem width_is_length (c : SConn) (w : Nat) (h : c.width = .ok w) :
    ∃ bs, c.denote = .ok bs ∧ bs.length = w := width_denote h

/-- `Concat(a, b, …)` is list concatenation with `a`'s bits lowest. -/
theorem concat_is_append (a b : SConn) (as bs : List Bit) (ha : a.denote = .ok as) (hb : b.denote = .ok bs) :
    (SConn.concat [a, b]).denote = .ok (as ++ bs) := by
  exact denoteList_cons_ok_iff.2 ⟨as, bs, ha, denoteList_singleton hb, rfl⟩

/-- **Resolving nested slices and concatenations down to signal-level slices does not change the
    selected bit sequence** — for every nesting depth, width, step and sign, and every fuel. -/
theorem resolve_preserves_bits (fuel : Nat) (c r : SConn) (bs : List Bit)
    (h : resolveSliceable fuel c = .ok r) (hd : c.denote = .ok bs) : r.denote = .ok bs :=
  resolveSliceable_sound h hd

/-- … and what it returns consists only of signals and slices taken directly from signals. -/
theorem resolve_flat (fuel : Nat) (c r : SConn) (h : resolveSliceable fuel c = .ok r) :
    r.exportable = true := resolveSliceable_exportable h

/-- No exported slice leaves its signal: whatever `export_slice` writes for a slice of a `w`-bit
    signal satisfies `bot ≤ top < w`. -/
theorem exported_bits_in_range (n : String) (w : Nat) (idx : Index) (t : Pkg.PTarget)
    (h : exportTarget (.slice (.sig n w) idx) = .ok t) :
    ∃ top bot, t = .slice n top bot ∧ bot ≤ top ∧ top < w :=
  exportTarget_slice_inrange h

/-! ### The resolver always answers -/

/-- **Every connectable that denotes something is resolved** — for every nesting depth, width, step and sign: if the expression has
    a denotation (every index in range, every slice non-empty, at every level) and holds no empty concatenation, `SliceResolver`,
    given the fuel `needR c` (a number computed from the expression; any larger one will do), returns — and what it returns denotes
    the same bits and is made of signals and signal-level slices only.  The fuel argument of the model is discharged: `needR c`
    bounds the depth of the Python recursion, so the theorems above are not about an event that never happens. -/
theorem resolve_total (c : SConn) (bs : List Bit) (hd : c.denote = .ok bs) (hne : c.noEmpty = true) (fuel : Nat) (hf : needR c ≤ fuel) :
    ∃ r, resolveSliceable fuel c = .ok r ∧ r.denote = .ok bs ∧ r.exportable = true := by
  obtain ⟨r, hr⟩ := (resolve_total_aux fuel).2.2.1 c bs hd hne hf
  exact ⟨r, hr, resolve_preserves_bits fuel c r bs hr hd, resolve_flat fuel c r hr⟩

/-- … in terms of what the passes look at: whatever has a width is resolved, to something of that width -/
theorem resolve_total_of_width (c : SConn) (w : Nat) (hw : c.width = .ok w) (hne : c.noEmpty = true) :
    ∃ r, resolveSliceable (needR c) c = .ok r ∧ r.width = .ok w ∧ r.exportable = true := by
  obtain ⟨bs, hd, _⟩ := width_denote hw
  obtain ⟨r, hr, _, hre⟩ := resolve_total c bs hd hne (needR c) (Nat.le_refl _)
  exact ⟨r, hr, resolve_width hr hw, hre⟩

/-- **The resolver answers exactly for what denotes something.** For an expression without empty concatenations and with fuel
    `needR c` or more: `SliceResolver` returns **iff** the expression has a denotation — every index in range and every slice
    non-empty at every depth.  One out-of-range index or empty range anywhere inside, and it raises (C02's index clause, by the
    resolver alone); everything else it resolves (C03's acceptance). -/
theorem resolver_accepts_iff (c : SConn) (hne : c.noEmpty = true) (fuel : Nat) (hf : needR c ≤ fuel) :
    (∃ r, resolveSliceable fuel c = .ok r) ↔ ∃ bs, c.denote = .ok bs := by
  constructor
  · rintro ⟨r, hr⟩
    obtain ⟨w, hw⟩ := resolveSliceable_width hr
    obtain ⟨bs, hd, _⟩ := width_denote hw
    exact ⟨bs, hd⟩
  · rintro ⟨bs, hd⟩
    obtain ⟨r, hr, _⟩ := resolve_total c bs hd hne fuel hf
    exact ⟨r, hr⟩

/-- **In-range indices and non-empty unit-step ranges are accepted — all the way into the package.** An expression whose every
    index is an integer or a unit-step range (at any depth, over any mix of slices and concatenations), which denotes something
    and names declared signals, is resolved *and exported*, and the target the netlisters read holds exactly its bits, in order.
    (The exporter's one refusal — a stepped slice taken directly from a Signal — cannot arise: `resolve_unit`.) -/
theorem unit_step_accepted (ws : List (String × Nat)) (c : SConn) (bs : List Bit) (hd : c.denote = .ok bs)
    (hu : c.unit = true) (hne : c.noEmpty = true) (hok : sigsOK ws c = true) :
    ∃ r t, resolveSliceable (needR c) c = .ok r ∧ exportTarget r = .ok t ∧ Pkg.readTarget ws t = bs.map bitNat := by
  obtain ⟨r, hr, hrd, hre⟩ := resolve_total c bs hd hne (needR c) (Nat.le_refl _)
  obtain ⟨t, ht⟩ := export_total r hre (resolveSliceable_unit hr hu) ⟨bs, hrd⟩
  exact ⟨r, t, hr, ht, read_resolved hok hr ht hd⟩

/-- non-vacuity: a reversed, strided slice of a concatenation of a slice and a signal, resolved with exactly `needR` fuel -/
example :
    let c : SConn := .slice (.concat [.slice (.sig "a" 4) (.range (some 3) (some 0) (some (-1))), .sig "b" 3]) (.range none none (some (-2)))
    c.noEmpty = true ∧ needR c = 18 ∧ (resolveSliceable (needR c) c).toOption.map SConn.exportable = some true := by decide +kernel

/-! ### Non-vacuity -/
example : sliceInner 4 (.range (some 1) none (some 2)) =
    .ok { top := 4, bot := 1, step := 2, width := 2 } := by rfl
example : sliceInner 4 (.range (some 3) (some 1) (some (-1))) =
    .ok { top := 4, bot := 2, step := -1, width := 2 } := by rfl
example : ∃ e, sliceInner 4 (.range (some 2) (some 2) none) = .error e := ⟨_, rfl⟩

end Hdl21.Props.C03
