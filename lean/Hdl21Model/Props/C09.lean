/-
# C09 — Generator calls are memoised and their modules uniquely named

* `readable_injective`: the readable `k=v …` suffix is injective in the parameter values, for all
  strings (spaces, `=`, quotes, backslashes) — by exhibiting the parser.
* cache theorems over `run`: a cached call returns the identical module without running the body and
  without changing any state; a completed call is cached; a generator that hands on another
  generator's module does not rename it; `reset_starts_afresh`: after `generator.cache.reset()` every call returns a
  module made after the reset, and equal calls agree again from then on.
* The md5-of-JSON form (non-scalar parameter classes, or names of 128+ characters):
  `hashed_encoding_injective` — the JSON *tree* `hdl21_naming_encoder` makes of a parameter value (NameEnc.lean)
  determines the value, for every declared type whose unions are told apart by the kind of JSON they produce
  (`Optional[T]`, `Union[Prefixed, Literal]`, …; `Union[str, Prefixed]` is not, `union_needs_distinct_kinds`).
  What is left to trust is `json.dumps` as an injective rendering of trees, and md5 collision freedom.
* `mixed_naming_injective`: the abstract statement about *any* two injective naming forms with disjoint ranges (its `readable`,
  `hashed` are bound variables, not `Naming.readable` / `NameEnc.enc`): whatever decides which form a value gets, the name tells
  values apart.
-/
import Hdl21Model.Lemmas.Naming
import Hdl21Model.Lemmas.NameEnc
namespace Hdl21.Props.C09
open Hdl21.Naming Hdl21.NameEnc

/-- **The readable name is injective**: two parameter-class instances (same keys, in order)
    whose readable names coincide have equal values — whatever the strings contain. -/
theorem readable_injective : ∀ (kvs kws : List (List Char × Value)),
    kvs.map (·.1) = kws.map (·.1) → (∀ p ∈ kvs, p.2.wf) → (∀ p ∈ kws, p.2.wf) →
    readable kvs = readable kws → kvs = kws := by
  intro kvs kws hk hv hw h
  cases kvs with
  | nil =>
    cases kws with
    | nil => rfl
    | cons _ _ => cases hk
  | cons p r1 =>
    cases kws with
    | nil => cases hk
    | cons q r2 => exact spaced_injective hk hv hw (by rw [spaced_eq_readable, spaced_eq_readable, h])

/-- The two parameter sets whose names collide on the pinned tree are told apart. -/
example : readable [("a".toList, .str "x b=y".toList), ("b".toList, .str "z".toList)] ≠
          readable [("a".toList, .str "x".toList), ("b".toList, .str "y b=z".toList)] := by decide +kernel
example : readable [("a".toList, .atom "None".toList)] ≠ readable [("a".toList, .str "None".toList)] := by decide +kernel

/-- A cached call returns the cached module, runs nothing and changes nothing. -/
theorem run_cached (prog : Call → Body) (f : Nat) (s : St) (c : Call) (m : Nat)
    (h : lookup c s.done = some m) : run prog (f + 1) s c = some (s, m) := by
  rw [run, h]

/-- After a successful call the call is in the cache with the returned module. -/
theorem run_records (prog : Call → Body) (f : Nat) (s s' : St) (c : Call) (m : Nat)
    (h : run prog f s c = some (s', m)) : lookup c s'.done = some m := by
  cases f with
  | zero => rw [run_zero] at h; cases h
  | succ f =>
    rcases run_succ_spec h with ⟨hl, rfl⟩ | ⟨s2, ms, _, ⟨_, _, _, _, rfl⟩ | ⟨_, _, _, _, _, rfl⟩⟩
    · exact hl
    · exact if_pos rfl
    · exact if_pos rfl

/-- **Memoisation**: calling again with equal parameters returns the identical module, does not
    run the body again (the run log is unchanged) and changes no state at all. -/
theorem memo (prog : Call → Body) (f f' : Nat) (s s' : St) (c : Call) (m : Nat)
    (h : run prog f s c = some (s', m)) : run prog (f' + 1) s' c = some (s', m) :=
  run_cached prog f' s' c m (run_records prog f s s' c m h)

/-- everything the memo holds, and everything still to be made, is newer than `N` -/
def NewerThan (N : Nat) (s : St) : Prop := (∀ c m, lookup c s.done = some m → N ≤ m) ∧ N ≤ s.next

/-- By induction on the fuel: a call with fuel `f + 1` runs its nested calls with fuel `f`, and a list of calls keeps what single
    calls keep (`runAll_keeps`). -/
theorem run_newer (prog : Call → Body) (N : Nat) : ∀ (f : Nat) (s s' : St) (c : Call) (m : Nat), NewerThan N s →
    run prog f s c = some (s', m) → NewerThan N s' ∧ N ≤ m := by
  intro f
  induction f with
  | zero => intro s s' c m _ h; rw [run_zero] at h; cases h
  | succ f ih =>
    intro s s' c m hs h
    have hs1 : NewerThan N { s with runs := c :: s.runs } := hs
    rcases run_succ_spec h with ⟨hl, rfl⟩ | ⟨s2, ms, _, ⟨n, _, hr, rfl, rfl⟩ | ⟨n, k, _, hr, hk, rfl⟩⟩
    · exact ⟨hs, hs.1 c m hl⟩
    · obtain ⟨⟨hd, hn⟩, _⟩ := runAll_keeps ih hs1 hr
      exact ⟨⟨lookup_cons_all (P := (N ≤ ·)) hn hd, Nat.le_succ_of_le hn⟩, hn⟩
    · obtain ⟨⟨hd, hn⟩, hms⟩ := runAll_keeps ih hs1 hr
      have hm := hms m (List.mem_of_getElem? hk)
      exact ⟨⟨lookup_cons_all (P := (N ≤ ·)) hm hd, hn⟩, hm⟩

theorem runAll_newer (prog : Call → Body) (N : Nat) : ∀ (f : Nat) (s s' : St) (cs : List Call) (ms : List Nat), NewerThan N s →
    runAll prog f s cs = some (s', ms) → NewerThan N s' ∧ ∀ m ∈ ms, N ≤ m :=
  fun f _ _ _ _ => runAll_keeps (run_newer prog N f)

/-- **After `generator.cache.reset()` the memo starts afresh**: every call made from then on — whatever the program, however
    nested — returns a module made after the reset (the body ran again; nothing made before the reset is handed out), and from
    then on equal calls agree again (`memo` holds in every state, the reset one included). -/
theorem reset_starts_afresh (prog : Call → Body) (f : Nat) (s s' : St) (c : Call) (m : Nat)
    (h : run prog f s.reset c = some (s', m)) : s.next ≤ m ∧ ∀ f', run prog (f' + 1) s' c = some (s', m) := by
  have h0 : NewerThan s.next s.reset := ⟨fun c m hl => (by cases hl), Nat.le_refl _⟩
  exact ⟨(run_newer prog s.next f s.reset s' c m h0 h).2, fun f' => memo prog f f' s.reset s' c m h⟩

/-- A generator that hands on a module produced by another generator call does not rename it:
    the name table after the call is the one left by its nested calls. -/
theorem forward_keeps_names (prog : Call → Body) (f : Nat) (s s2 s' : St) (c : Call)
    (nested : List Call) (k m : Nat) (ms : List Nat)
    (hl : lookup c s.done = none) (hp : prog c = .forward nested k)
    (hr : runAll prog f { s with runs := c :: s.runs } nested = some (s2, ms))
    (h : run prog (f + 1) s c = some (s', m)) : s'.nameOf = s2.nameOf ∧ ms[k]? = some m := by
  rcases run_succ_spec h with ⟨hc, _⟩ | ⟨_, _, _, ⟨_, hp', _⟩ | ⟨_, _, hp', hr', hk, rfl⟩⟩
  · rw [hl] at hc; cases hc
  · rw [hp] at hp'; cases hp'
  · rw [hp] at hp'; cases hp'; rw [hr] at hr'; cases hr'; exact ⟨rfl, hk⟩

/-- A freshly built module gets a new identity and is named after *this* call. -/
theorem fresh_named (prog : Call → Body) (f : Nat) (s s2 s' : St) (c : Call)
    (nested : List Call) (m : Nat) (ms : List Nat)
    (hl : lookup c s.done = none) (hp : prog c = .fresh nested)
    (hr : runAll prog f { s with runs := c :: s.runs } nested = some (s2, ms))
    (h : run prog (f + 1) s c = some (s', m)) :
    m = s2.next ∧ s'.next = m + 1 ∧ lookup m s'.nameOf = some c := by
  rcases run_succ_spec h with ⟨hc, _⟩ | ⟨_, _, _, ⟨_, hp', hr', rfl, rfl⟩ | ⟨_, _, hp', _⟩⟩
  · rw [hl] at hc; cases hc
  · rw [hp] at hp'; cases hp'; rw [hr] at hr'; cases hr'; exact ⟨rfl, rfl, if_pos rfl⟩
  · rw [hp] at hp'; cases hp'

/-- **The tree the naming encoder hashes determines the parameter value**: two values of one declared type with the same
    encoding are the same value — in particular a field at `0`, `False`, `""`, `()` is not a field at `None`, an enum member is
    its value and nothing else, a nested param-class is its fields in order. -/
theorem hashed_encoding_injective (t : Ty) (hw : t.wf = true) (a b : PV) (ha : has t a = true) (hb : has t b = true)
    (h : enc a = enc b) : a = b :=
  enc_inj t hw a b ha hb h

/-- what a value's encoding looks like, kind by kind -/
theorem hashed_encoding_kinds :
    enc .none = .null ∧ (∀ b, enc (.bool b) = .bool b) ∧ (∀ i, enc (.int i) = .int i) ∧ (∀ s, enc (.str s) = .str s) ∧
    (∀ v, enc (.enum v) = enc v) ∧ (∀ c, enc (.prefixed c) = .str c) ∧ (∀ q, enc (.named q) = .str q) ∧
    (∀ xs, enc (.tuple xs) = .arr (encList xs)) ∧ (∀ fs, enc (.pc fs) = .obj (encFields fs)) :=
  ⟨rfl, fun _ => rfl, fun _ => rfl, fun _ => rfl, fun _ => rfl, fun _ => rfl, fun _ => rfl, fun _ => rfl, fun _ => rfl⟩

/-- the hypothesis on unions is needed: a string and a prefixed number of the same text are hashed alike -/
theorem union_needs_distinct_kinds :
    enc (.str "1") = enc (.prefixed "1") ∧ (Ty.union .str .prefixed).wf = false :=
  ⟨rfl, rfl⟩

/-- a shape as the check generates them: an enum, an optional int, an optional tuple, a nested param-class with optional
    fields, a generator-valued field; its type is well-formed, and `trim = 0`, `trim = None` are two values of it -/
def exTy : Ty := .pc [("corner", .enum .str), ("trim", .union .none .int), ("taps", .union .none (.tuple .int)),
  ("sub", .pc [("gain", .union .none .float), ("tag", .union .none .str)]), ("cell", .named)]
def exVal (trim : PV) : PV := .pc [("corner", .enum (.str "tt")), ("trim", trim), ("taps", .tuple []),
  ("sub", .pc [("gain", .float "0.0"), ("tag", .none)]), ("cell", .named "liba.Cell")]

example : exTy.wf = true ∧ has exTy (exVal (.int 0)) = true ∧ has exTy (exVal .none) = true := by decide +kernel

example : enc (exVal (.int 0)) ≠ enc (exVal .none) := by
  intro h
  have := hashed_encoding_injective exTy (by decide +kernel) _ _ (by decide +kernel) (by decide +kernel) h
  simp [exVal] at this

/-! ## where the readable form ends and the hashed form begins does not matter -/
/-- **Any switch point.** `_unique_name` names a parameter value by its readable text when that is short, by a digest of its JSON tree
    otherwise. Given that each form tells values apart (`readable_injective`; `hashed_encoding_injective` + the digest hypothesis) and
    that no readable text is ever a digest (a readable name contains `=`; a digest is 32 hexadecimal digits), the name tells values
    apart **whatever decides** which form a value gets — a length limit of 128, of 96, a different limit per generator. -/
theorem mixed_naming_injective {V N : Type} (readable hashed : V → N) (useHash : V → Bool)
    (hr : ∀ a b, readable a = readable b → a = b) (hh : ∀ a b, hashed a = hashed b → a = b)
    (hdisj : ∀ a b, readable a ≠ hashed b) (a b : V)
    (h : (if useHash a then hashed a else readable a) = (if useHash b then hashed b else readable b)) : a = b := by
  cases ha : useHash a <;> cases hb : useHash b <;> simp only [ha, hb] at h
  · exact hr a b h
  · exact absurd h (hdisj a b)
  · exact absurd h.symm (hdisj b a)
  · exact hh a b h

/-- Non-vacuity: two forms over the naturals with disjoint ranges (even / odd), switched at two different points. -/
example : (∀ a b : Nat, (if (fun v => decide (v < 7)) a then 2 * a + 1 else 2 * a) = (if (fun v => decide (v < 7)) b then 2 * b + 1 else 2 * b) → a = b) ∧
          (∀ a b : Nat, (if (fun v => decide (v < 3)) a then 2 * a + 1 else 2 * a) = (if (fun v => decide (v < 3)) b then 2 * b + 1 else 2 * b) → a = b) :=
  -- the switch point plays no part: one instance of the theorem, for any `useHash`
  have any := fun useHash => mixed_naming_injective (fun v : Nat => 2 * v) (fun v => 2 * v + 1) useHash
    (fun _ _ h => Nat.eq_of_mul_eq_mul_left (by decide) h) (fun _ _ h => Nat.eq_of_mul_eq_mul_left (by decide) (Nat.succ.inj h))
    (fun _ _ => by omega)
  ⟨any _, any _⟩

end Hdl21.Props.C09
