/-
# C08 — A failed elaboration or generator call does not poison later ones

Over the abstract runner (Runner.lean), where a pass may raise at any (pass, module) point, for any
module DAG, any pass behaviour and any history of earlier calls:

* `failure_is_recorded`      a module on which a pass raised is marked failed, and every failed module
                             lacks the `done` mark of the pass that failed on it;
* `failed_module_blocks`     any later visit — of any pass class, under any old or new parent — that
                             reaches a failed module through a not-yet-completed path does not complete:
                             such a module is never part of a returned (exported) design;
* `failed_is_forever`        nothing un-fails a module or rewrites it again (whether or not the designer
                             edits other things);
* `unrelated_unaffected`     modules that are not below the visited top keep their state, marks and
                             failure flags whatever happens — a failure never leaks sideways;
* `retry_fails_again`        repeating the failed call fails again (the code re-raises the stored
                             original exception object; the model has one failure value).
* `generator_failure_leaves_no_trace`, `generator_retry_runs_again`, `generator_success_is_cached`,
  `generator_pending_untouched`  (GenRun.lean) a generator call whose body raised changes nothing in the cache — no
                             entry, no pending mark — so the very same call can be run again and, if its body now
                             returns, is cached from then on; calls never leave a pending mark behind.
* `nested_calls_leave_no_mark`, `nested_never_spuriously_circular`, `nested_failed_call_runs_again`,
  `nested_success_is_cached`   the same for generators that call generators (event trees `Ev`: every body makes nested
                             calls, catches their failures or lets them propagate, then returns or raises): after any
                             history nothing is pending; "circular dependency" is reported only for an event tree that
                             really nests a call inside the same call; a call that did not return is run again; one that
                             did is cached for good.
The exception *texts* and the real cache are decided
by the correspondence (harness/props/c08.py): every (pass position, module) failure point, injected
three ways, followed by every continuation, against a fresh process.
-/
import Hdl21Model.Props.C07
import Hdl21Model.Lemmas.GenRun
namespace Hdl21.Props.C08
open Hdl21.Runner Hdl21.Props.C07 Hdl21.GenRun

variable {S : Type}

/-- Whenever a visit leaves a module newly failed, that module is not `done` for the visiting pass. -/
theorem failure_is_recorded (sys : Sys S) (hdag : ∀ m c, c ∈ sys.children m → c < m) (k fuel : Nat)
    (st : RState S) (m x : Nat) (h1 : (visit sys k fuel st m).1.failed x = true) (h0 : st.failed x = false) :
    (visit sys k fuel st m).1.done k x = false :=
  (visit_rel sys hdag k fuel st m).new_failed x h1 h0

/-- Visiting a failed module itself never completes and changes nothing. -/
theorem failed_module_raises (sys : Sys S) (j fuel : Nat) (st : RState S) (m : Nat) (hf : st.failed m = true) :
    visit sys j (fuel + 1) st m = (st, false) := by
  rw [visit, hf]; rfl

/-- A visit that would have to pass through a failed, not-yet-done module does not complete. -/
theorem failed_module_blocks (sys : Sys S) (hdag : ∀ m c, c ∈ sys.children m → c < m) (k fuel : Nat)
    (st : RState S) (p x : Nat) (hc : DoneClosed sys k st) (hr : Reach sys p x)
    (hf : st.failed x = true) (hnd : st.done k x = false) : (visit sys k fuel st p).2 = false :=
  Bool.of_not_eq_true fun hres => by
    have hall := visit_reaches_all sys hdag k fuel st p hc hres x hr
    rw [((visit_rel sys hdag k fuel st p).failed_frozen x hf).2 k, hnd] at hall; cases hall

/-- Failure is permanent, and a failed module is never rewritten or marked again. -/
theorem failed_is_forever (sys : Sys S) (hdag : ∀ m c, c ∈ sys.children m → c < m) (j fuel : Nat)
    (st : RState S) (m x : Nat) (hf : st.failed x = true) :
    (visit sys j fuel st m).1.failed x = true ∧ (visit sys j fuel st m).1.σ x = st.σ x ∧
    ∀ i, (visit sys j fuel st m).1.done i x = st.done i x := by
  have rel := visit_rel sys hdag j fuel st m
  exact ⟨rel.failed_mono x hf, (rel.failed_frozen x hf).1, (rel.failed_frozen x hf).2⟩

/-- Modules that are not below the visited one are untouched, whether the visit fails or not. -/
theorem unrelated_unaffected (sys : Sys S) (hdag : ∀ m c, c ∈ sys.children m → c < m) (k fuel : Nat)
    (st : RState S) (m x : Nat) (hx : m < x) :
    (visit sys k fuel st m).1.σ x = st.σ x ∧ (∀ j, (visit sys k fuel st m).1.done j x = st.done j x) ∧
    (visit sys k fuel st m).1.failed x = st.failed x := only_below_touched sys hdag k fuel st m x hx

/-- Retrying after a failure fails again: the failed module still blocks the pass that failed on it. -/
theorem retry_fails_again (sys : Sys S) (hdag : ∀ m c, c ∈ sys.children m → c < m) (k fuel fuel' : Nat)
    (st : RState S) (p x : Nat) (hc : DoneClosed sys k st) (hr : Reach sys p x)
    (h0 : st.failed x = false) (h1 : (visit sys k fuel st p).1.failed x = true) :
    (visit sys k fuel' (visit sys k fuel st p).1 p).2 = false := by
  have rel := visit_rel sys hdag k fuel st p
  exact failed_module_blocks sys hdag k fuel' _ p x (rel.closed hc) hr h1 (rel.new_failed x h1 h0)

/-- A generator call that fails leaves the cache exactly as it was. -/
theorem generator_failure_leaves_no_trace (s : Cache) (c : Call) (body : Outcome) (h : (run s c body).2 = .failed) :
    (run s c body).1 = s := by
  rcases run_fst s c body with h' | ⟨m, h'⟩
  · exact h'
  · rw [h'] at h; cases h

/-- … so the same call can be run again: if its body returns this time, that module is the result, now and later. -/
theorem generator_retry_runs_again (s : Cache) (c : Call) (m : Mod) (hn : lookup c s.done = none) (hp : c ∉ s.pending) :
    let s₁ := (run s c .raises).1
    (run s₁ c (.ok m)).2 = .module m ∧ ∀ body, (run (run s₁ c (.ok m)).1 c body).2 = .module m := by
  intro s₁
  -- the failed call left the cache as it was, the retry files `m`, and from then on the call is a hit
  rw [show s₁ = s from congrArg Prod.fst (run_raises hn hp), run_ok hn hp]
  exact ⟨rfl, fun body => by rw [run_hit (m := m) (show lookup c ((c, m) :: s.done) = some m from if_pos rfl)]⟩

/-- A call that returned is answered from the cache from then on, whatever the body would do. -/
theorem generator_success_is_cached (s : Cache) (c : Call) (m : Mod) (h : lookup c s.done = some m) (body : Outcome) :
    run s c body = (s, .module m) :=
  run_hit h body

/-- No call leaves a pending mark or a stack entry behind. -/
theorem generator_pending_untouched (s : Cache) (calls : List (Call × Outcome)) :
    (runAll s calls).pending = s.pending ∧ (runAll s calls).stack = s.stack := by
  induction calls generalizing s with
  | nil => exact ⟨rfl, rfl⟩
  | cons co r ih =>
    obtain ⟨c, o⟩ := co
    have h1 : (run s c o).1.pending = s.pending ∧ (run s c o).1.stack = s.stack := by
      rcases run_fst s c o with h | ⟨m, h⟩ <;> rw [h] <;> exact ⟨rfl, rfl⟩
    exact ⟨(ih (run s c o).1).1.trans h1.1, (ih (run s c o).1).2.trans h1.2⟩

example : (runAll Cache.init [(7, .raises), (7, .ok 3), (7, .raises)]) = ⟨[(7, 3)], [], []⟩ := by decide +kernel

/-! ### generators that call generators (bodies that catch a nested failure, or let it propagate)

On a body that makes no calls `runEv` is the flat `run` of the theorems above (`GenRun.runEv_nil`). -/

/-- Whatever calls were made before — failing at any depth, caught or not — nothing is left pending and the call stack is empty. -/
theorem nested_calls_leave_no_mark (evs : List Ev) :
    (runEvs Cache.init evs).pending = [] ∧ (runEvs Cache.init evs).stack = [] :=
  ⟨(runEvs_keeps _ evs).pending, (runEvs_keeps _ evs).stack⟩

/-- … so a later call is answered "circular dependency" only when it asks for it: when its own bodies, this time, call a
    generator from inside a call with the same parameters.  A repeated call never gets that answer because of what failed before. -/
theorem nested_never_spuriously_circular (evs : List Ev) (e : Ev)
    (h : (runEv (runEvs Cache.init evs) e).2 = .circular) : cyc [] e = true :=
  (nested_calls_leave_no_mark evs).1 ▸ runEv_circular (runEvs Cache.init evs) e h

/-- A call that did not return a module — its own body failed, or a failure below it that it did not catch — is not cached,
    and is simply run again. -/
theorem nested_failed_call_runs_again (s : Cache) (c : Call) (nested : List Ev) (catches : Bool) (out : Outcome)
    (hp : c ∉ s.pending) (h : ∀ m, (runEv s (.call c nested catches out)).2 ≠ .module m) (catches' : Bool) (m : Mod) :
    (runEv (runEv s (.call c nested catches out)).1 (.call c [] catches' (.ok m))).2 = .module m := by
  have hnone : lookup c (runEv s (.call c nested catches out)).1.done = none := by
    rw [runEv_self s c nested catches out hp]
    split
    · exact absurd ‹_› (h _)
    · rfl
  have hp' : c ∉ (runEv s (.call c nested catches out)).1.pending := by rw [(runEv_keeps s _).pending]; exact hp
  rw [runEv_nil, run_ok hnone hp']

/-- A call that returned is answered from the cache for good, whatever happens in between. -/
theorem nested_success_is_cached (s : Cache) (c : Call) (m : Mod) (h : lookup c s.done = some m) (between : List Ev)
    (nested : List Ev) (catches : Bool) (out : Outcome) :
    (runEv (runEvs s between) (.call c nested catches out)).2 = .module m := by
  rw [runEv, (runEvs_keeps s between).done_mono c m h]

/-- the scenario of a repair that forgets the mark only at the outermost level: Outer catches Inner(bad)'s failure and returns;
    Inner(bad) called again fails as before (not "circular"), and works once its body does; a genuine cycle is reported as one -/
example :
    let inner := Ev.call 1 [] false .raises
    let s := runEvs Cache.init [.call 0 [inner] true (.ok 10)]
    s = ⟨[(0, 10)], [], []⟩ ∧ (runEv s inner).2 = .failed ∧ (runEv s (.call 1 [] false (.ok 11))).2 = .module 11 ∧
    (runEv s (.call 2 [.call 3 [.call 2 [] false (.ok 5)] false (.ok 6)] true (.ok 7))).2 = .module 7 ∧
    (runEv s (.call 2 [.call 3 [.call 2 [] false (.ok 5)] false (.ok 6)] false (.ok 7))).2 = .circular := by decide +kernel

/-! ## Repair and retry: what the runner does *not* guarantee (the recorded finding, exhibited in the model)

The designer may replace an instance of a module that is not elaborated yet: the model of that edit is another `children`
function. The `done` sets do not know about it. -/

/-- **A parent a pass has completed on hides a new child from that pass.** After the edit (`sys'` instead of `sys`: the module
    `m` now instantiates `c`), visiting `m` with pass `k` — done on `m`, not on `c` — completes at once and leaves `c`
    unvisited: whatever pass `k` would have established about `c` (its references resolved, its bundles flattened) is missing when
    the later passes, not yet done on `m`, descend into it. This is `revisit_is_noop` read as a defect; the implementation shows it
    as the known finding `repair:<fault>/<repair>` (a spurious refusal, never a wrong package). -/
theorem done_parent_hides_new_child (sys' : Sys S) (k fuel : Nat) (st : RState S) (m c : Nat)
    (hd : st.done k m = true) (hf : st.failed m = false) (_hnew : c ∈ sys'.children m) (hc : st.done k c = false) :
    (visit sys' k (fuel + 1) st m).2 = true ∧ (visit sys' k (fuel + 1) st m).1.done k c = false := by
  rw [revisit_is_noop sys' k fuel st m hd hf]
  exact ⟨rfl, hc⟩

/-- The witness, run: modules 0 (bad: pass 1 raises on it), 1 (the parent), 2 (healthy). First call: pass 0 completes on 0 and 1,
    pass 1 fails on 0. The designer makes 1 instantiate 2 instead of 0. Second call: pass 0 is done on the parent and never runs
    on module 2; pass 1 then meets module 2 in a state pass 0 has not prepared (here: it raises on every module of state 0). -/
example :
    let sys  : Sys Nat := ⟨fun m => if m = 1 then [0] else [], fun k σ m => if k = 0 then some 1 else if σ m = 0 ∨ m = 0 then none else some 2⟩
    let sys' : Sys Nat := { sys with children := fun m => if m = 1 then [2] else [] }
    let init : RState Nat := ⟨fun _ => 0, fun _ _ => false, fun _ => false⟩
    let st1 := elaborate sys 2 5 [1] init
    let st2 := elaborate sys' 2 5 [1] st1.1
    st1.2 = false ∧ st1.1.done 0 1 = true ∧ st1.1.failed 1 = false ∧       -- the first call fails below the parent, which pass 0 completed on
    st2.2 = false ∧ st2.1.done 0 2 = false ∧ st2.1.failed 2 = true ∧        -- the repaired design is refused: pass 0 never saw module 2
    (elaborate sys' 2 5 [1] init).2 = true := by                            -- which a fresh process elaborates
  decide +kernel

end Hdl21.Props.C08