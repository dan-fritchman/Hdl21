/-
# C07 — Elaboration results do not depend on elaboration history   (and the runner facts C02 / C08 use)

Over the abstract runner (Runner.lean), for any module DAG with any sharing, any pass behaviour, any
fuel and any starting state left behind by earlier calls:

* `visit_reaches_all`   a completed visit of pass `k` leaves `k` done on everything reachable;
* `visit_runs_pass`     a pass class that has not completed on `m` really runs on `m` (it is not skipped
                        because some *other* class has completed there — the C02 repeat passes);
* `other_passes_untouched`, `done_never_rewritten`, `revisit_is_noop`  (idempotence, freeze);
* `only_below_touched`  a visit of `m` touches `m` and modules below it only: elaborating a design never
                        changes a module outside it.

* `history_independent`  for every sequence of `elaborate` calls over any lists of tops, from
                        the fresh state: every module below any top of any call ends with all passes done and in the
                        canonical state `C n x` — the same whether its sub-modules were elaborated earlier, alone, in
                        lists, under other parents, or never; `same_as_elaborated_alone`, `elaborating_again_changes_nothing`.
                        It is `after_keeps` (the same from any state the invariant `Inv` holds of) at the fresh state; the
                        invariant and the lemmas about one call are in Lemmas/RunnerCanon.lean.
                        One hypothesis about the concrete passes, `Stable`: pass `k` on `x` in state `C k x` returns
                        `C (k+1) x` whatever later canonical state the modules below `x` are in and whatever other modules
                        look like (and does not fail).  That hypothesis is what the correspondence decides for the real
                        passes: all orders and groupings of elaborate / to_proto / netlist calls over small DAGs, each
                        history in a fresh interpreter, compared byte for byte with the single-call package.
-/
import Hdl21Model.Lemmas.RunnerCanon
namespace Hdl21.Props.C07
open Hdl21.Runner

variable {S : Type}

/-- The closure invariant itself survives every visit, successful or not. -/
theorem closed_preserved (sys : Sys S) (hdag : ∀ m c, c ∈ sys.children m → c < m) (k fuel : Nat)
    (st : RState S) (m : Nat) (hc : DoneClosed sys k st) : DoneClosed sys k (visit sys k fuel st m).1 :=
  (visit_rel sys hdag k fuel st m).closed hc

/-- A completed visit of pass `k` leaves `k` done on every module below the visited one. -/
theorem visit_reaches_all (sys : Sys S) (hdag : ∀ m c, c ∈ sys.children m → c < m) (k fuel : Nat)
    (st : RState S) (m : Nat) (hc : DoneClosed sys k st) (hok : (visit sys k fuel st m).2 = true) :
    ∀ x, Reach sys m x → (visit sys k fuel st m).1.done k x = true :=
  fun _ hx => (closed_preserved sys hdag k fuel st m hc).reach hx ((visit_run sys hdag k fuel st m).ok hok m (.head _))

/-- Visits of pass `k` never touch the `done` set of another pass class: a repeat pass with its own
    class (own index) is not skipped because the first run of the same check has completed. -/
theorem other_passes_untouched (sys : Sys S) (hdag : ∀ m c, c ∈ sys.children m → c < m) (k fuel : Nat)
    (st : RState S) (m : Nat) (j x : Nat) (hj : j ≠ k) :
    (visit sys k fuel st m).1.done j x = st.done j x :=
  (visit_rel sys hdag k fuel st m).done_other j x hj

/-- A module on which the pass has completed is never rewritten by that pass again (freeze). -/
theorem done_never_rewritten (sys : Sys S) (hdag : ∀ m c, c ∈ sys.children m → c < m) (k fuel : Nat)
    (st : RState S) (m x : Nat) (hx : st.done k x = true) : (visit sys k fuel st m).1.σ x = st.σ x :=
  (visit_rel sys hdag k fuel st m).done_frozen x hx

/-- Visiting a module again is a no-op: nothing at all changes, and it reports success. -/
theorem revisit_is_noop (sys : Sys S) (k fuel : Nat) (st : RState S) (m : Nat)
    (hd : st.done k m = true) (hf : st.failed m = false) : visit sys k (fuel + 1) st m = (st, true) := by
  rw [visit, hf, hd]; rfl

/-- A visit of `m` touches `m` and the modules below it only. -/
theorem only_below_touched (sys : Sys S) (hdag : ∀ m c, c ∈ sys.children m → c < m) (k fuel : Nat)
    (st : RState S) (m x : Nat) (hx : m < x) :
    (visit sys k fuel st m).1.σ x = st.σ x ∧ (∀ j, (visit sys k fuel st m).1.done j x = st.done j x) ∧
    (visit sys k fuel st m).1.failed x = st.failed x :=
  (visit_run sys hdag k fuel st m).run.frame x fun h => Nat.not_le_of_lt hx (reach_lt sys hdag h)

/-- A pass class that has not completed on `m` really runs on `m`: when the visit completes, `m`'s new
    state is what the pass returned, computed from the state left by the visits of `m`'s children. -/
theorem visit_runs_pass (sys : Sys S) (k fuel : Nat) (st : RState S) (m : Nat)
    (hd : st.done k m = false) (hf : st.failed m = false) (hok : (visit sys k (fuel + 1) st m).2 = true) :
    ∃ (r : RState S) (s : S), sys.apply k r.σ m = some s ∧ (visit sys k (fuel + 1) st m).1.σ m = s := by
  rw [visit_succ sys k fuel st m hf hd] at hok ⊢
  split at hok
  · rw [if_pos ‹_›]
    obtain ⟨s, hs⟩ := Option.isSome_iff_exists.mp hok
    exact ⟨_, s, hs, by simp [RState.run1, hs, RState.ran]⟩
  · rename_i h; exact absurd hok h

/-- The state after any sequence of `elaborate` calls. -/
def after (sys : Sys S) (n fuel : Nat) (calls : List (List Nat)) (st : RState S) : RState S :=
  calls.foldl (fun st tops => (elaborate sys n fuel tops st).1) st

/-- History independence from any state the invariant holds of — the fresh one, or whatever earlier calls have left. -/
theorem after_keeps {sys : Sys S} (hdag : ∀ m c, c ∈ sys.children m → c < m) {C : Nat → Nat → S} {n : Nat}
    (hst : Stable sys C n) {fuel : Nat} {calls : List (List Nat)} {st : RState S}
    (hf : ∀ tops ∈ calls, ∀ t ∈ tops, t < fuel) (hi : Inv sys C n st) :
    Inv sys C n (after sys n fuel calls st) ∧
      (∀ j x, st.done j x = true → (after sys n fuel calls st).done j x = true) ∧
      (∀ tops ∈ calls, ∀ t ∈ tops, ∀ y, Reach sys t y → Lev C (after sys n fuel calls st) y n) := by
  induction calls generalizing st with
  | nil => exact ⟨hi, (fun _ _ h => h), (fun tops h => nomatch h)⟩
  | cons tops rest ih =>
    obtain ⟨_, inv1, top1, mono1⟩ :=
      elaborate_keeps hdag hst (hf tops (List.mem_cons_self ..)) hi n (Nat.le_refl n)
    obtain ⟨inv2, mono2, lev2⟩ := ih (fun t ht => hf t (List.mem_cons_of_mem _ ht)) inv1
    refine ⟨inv2, (fun j x h => mono2 j x (mono1 j x h)), ?_⟩
    intro tops' ht' t ht y hy
    rcases List.mem_cons.mp ht' with rfl | h
    · -- all `n` passes are done on `t`, hence (closure) on `y`, and no level exceeds `n`
      obtain ⟨l, hl, hlev⟩ := inv2.lev y
      obtain rfl : l = n :=
        Nat.le_antisymm hl (hlev.le_of_done fun j hj => (inv2.closed j).reach hy (mono2 j t (top1 t ht j hj)))
      exact hlev
    · exact lev2 tops' h t ht y hy

/-- **History independence.** After any sequence of `elaborate` calls from the fresh state, every module below any top
    of any call has had all `n` passes and is in the canonical state `C n y`. -/
theorem history_independent (sys : Sys S) (hdag : ∀ m c, c ∈ sys.children m → c < m) (C : Nat → Nat → S) (n : Nat)
    (hst : Stable sys C n) (fuel : Nat) (calls : List (List Nat)) (hf : ∀ tops ∈ calls, ∀ t ∈ tops, t < fuel) :
    ∀ tops ∈ calls, ∀ t ∈ tops, ∀ y, Reach sys t y →
      (after sys n fuel calls (fresh C)).σ y = C n y ∧ ∀ j, (after sys n fuel calls (fresh C)).done j y = true ↔ j < n :=
  fun tops ht t htt y hy => ((after_keeps hdag hst hf (Inv.fresh sys C n)).2.2 tops ht t htt y hy).symm

/-- … which is the state the module gets when it is elaborated alone, first thing. -/
theorem same_as_elaborated_alone (sys : Sys S) (hdag : ∀ m c, c ∈ sys.children m → c < m) (C : Nat → Nat → S) (n : Nat)
    (hst : Stable sys C n) (fuel : Nat) (calls : List (List Nat)) (hf : ∀ tops ∈ calls, ∀ t ∈ tops, t < fuel)
    (tops : List Nat) (ht : tops ∈ calls) (t : Nat) (htt : t ∈ tops) (y : Nat) (hy : Reach sys t y) (hyf : y < fuel) :
    (after sys n fuel calls (fresh C)).σ y = (elaborate sys n fuel [y] (fresh C)).1.σ y := by
  rw [(history_independent sys hdag C n hst fuel calls hf tops ht t htt y hy).1]
  exact (history_independent sys hdag C n hst fuel [[y]] (by simpa using hyf)
    [y] (List.mem_singleton.mpr rfl) y (List.mem_singleton.mpr rfl) y (.refl y)).1.symm

/-- Elaborating again changes nothing below what was completed. -/
theorem elaborating_again_changes_nothing (sys : Sys S) (hdag : ∀ m c, c ∈ sys.children m → c < m) (C : Nat → Nat → S) (n : Nat)
    (hst : Stable sys C n) (fuel : Nat) (calls more : List (List Nat))
    (hf : ∀ tops ∈ calls ++ more, ∀ t ∈ tops, t < fuel)
    (tops : List Nat) (ht : tops ∈ calls) (t : Nat) (htt : t ∈ tops) (y : Nat) (hy : Reach sys t y) :
    (after sys n fuel (calls ++ more) (fresh C)).σ y = (after sys n fuel calls (fresh C)).σ y := by
  rw [(history_independent sys hdag C n hst fuel (calls ++ more) hf tops (List.mem_append_left _ ht) t htt y hy).1,
      (history_independent sys hdag C n hst fuel calls (fun tp h => hf tp (List.mem_append_left _ h)) tops ht t htt y hy).1]

/-! Non-vacuity: a chain `0 ← 1 ← 2 ← …` whose passes count how often they ran; the hypothesis `Stable` holds. -/
def chain : Sys Nat := { children := fun m => if m = 0 then [] else [m - 1], apply := fun _ σ m => some (σ m + 1) }
example : Stable chain (fun l _ => l) 5 := by
  intro k x σ _ hc
  simp only [chain]
  rw [hc.1]
example : ∀ m c, c ∈ chain.children m → c < m := by
  intro m c h
  simp only [chain] at h
  split at h
  · cases h
  · rename_i hm; rw [List.mem_singleton.mp h]; exact Nat.sub_lt (Nat.pos_of_ne_zero hm) Nat.one_pos

/-! ## where `Stable` comes from: passes that read of the modules below only what later passes leave alone -/

/-- What a pass may read: its own module's state, and of every module below it a *view* (`view k`: what pass `k` looks at —
    for the connection checks the module's pre-flattening IO, for the flatteners the cached flattened ports). -/
def Local {V : Type} (sys : Sys S) (view : Nat → S → V) : Prop :=
  ∀ k σ σ' x, σ x = σ' x → (∀ y, Reach sys x y → y ≠ x → view k (σ y) = view k (σ' y)) → sys.apply k σ x = sys.apply k σ' x

/-- Later passes leave that view alone (what `_pre_flattening_io` and the per-module caches are for). -/
def Frozen {V : Type} (C : Nat → Nat → S) (view : Nat → S → V) : Prop :=
  ∀ k l y, k + 1 ≤ l → view k (C l y) = view k (C (k + 1) y)

/-- On a design elaborated in step — everything below exactly one pass ahead — pass `k` takes level `k` to level `k + 1`. -/
def InStep (sys : Sys S) (C : Nat → Nat → S) (n : Nat) : Prop :=
  ∀ k x, k < n → sys.apply k (fun y => if y = x then C k x else C (k + 1) y) x = some (C (k + 1) x)

/-- **`Stable` follows** from locality, frozen views and the in-step behaviour: a pass cannot tell a sub-module elaborated long
    ago (by an earlier call, under another parent) from one elaborated just now. -/
theorem stable_of_frozen_views {V : Type} (sys : Sys S) (C : Nat → Nat → S) (n : Nat) (view : Nat → S → V)
    (hl : Local sys view) (hf : Frozen C view) (hs : InStep sys C n) : Stable sys C n := by
  intro k x σ hk hc
  rw [← hs k x hk]
  apply hl k σ _ x
  · simp [hc.1]
  · intro y hy hne
    obtain ⟨l, hl', hσ⟩ := hc.2 y hy hne
    simp only [hne]
    rw [hσ]
    exact hf k l y hl'

/-- History independence from the three code-level conditions. -/
theorem history_independent_of_frozen_views {V : Type} (sys : Sys S) (hdag : ∀ m c, c ∈ sys.children m → c < m)
    (C : Nat → Nat → S) (n : Nat) (view : Nat → S → V) (hl : Local sys view) (hf : Frozen C view) (hs : InStep sys C n)
    (fuel : Nat) (calls : List (List Nat)) (hfu : ∀ tops ∈ calls, ∀ t ∈ tops, t < fuel) :
    ∀ tops ∈ calls, ∀ t ∈ tops, ∀ y, Reach sys t y →
      (after sys n fuel calls (fresh C)).σ y = C n y ∧ ∀ j, (after sys n fuel calls (fresh C)).done j y = true ↔ j < n :=
  history_independent sys hdag C n (stable_of_frozen_views sys C n view hl hf hs) fuel calls hfu

/-- The three conditions are satisfiable by a pass that really reads the modules below: modules carry (level, interface width);
    every pass checks that each child's interface is the expected one and bumps the level; the view is the interface. -/
example : ∃ (sys : Sys (Nat × Nat)) (C : Nat → Nat → Nat × Nat),
    Local sys (fun _ s => s.2) ∧ Frozen C (fun _ s => s.2) ∧ InStep sys C 3 ∧ sys.children 2 = [0, 1] := by
  let w : Nat → Nat := fun x => x + 1
  let ch : Nat → List Nat := fun m => if m = 2 then [0, 1] else []
  -- a module is not its own child: the only children are 0 and 1, of module 2
  have hne : ∀ x c, c ∈ ch x → c ≠ x := by
    intro x c hc e
    subst e
    simp only [ch] at hc
    split at hc
    · rename_i h2; subst h2; exact absurd hc (by decide)
    · cases hc
  refine ⟨⟨ch, fun k σ x => if (σ x).1 = k ∧ ∀ c ∈ ch x, (σ c).2 = w c then some (k + 1, (σ x).2) else none⟩,
    fun l x => (l, w x), ?_, ?_, ?_, rfl⟩
  · intro k σ σ' x hx hv
    have : ∀ c ∈ ch x, (σ c).2 = (σ' c).2 := fun c hc => hv c (.step x c c hc (.refl c)) (hne x c hc)
    simp only [hx]
    congr 1
    exact propext ⟨fun ⟨h1, h2⟩ => ⟨h1, fun c hc => (this c hc).symm.trans (h2 c hc)⟩,
      fun ⟨h1, h2⟩ => ⟨h1, fun c hc => (this c hc).trans (h2 c hc)⟩⟩
  · intro k l y _; rfl
  · intro k x _
    simp only [↓reduceIte, true_and]
    rw [if_pos]
    intro c hc
    simp [hne x c hc]

end Hdl21.Props.C07
