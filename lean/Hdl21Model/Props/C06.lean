/-
# C06 — Every exported package is closed and self-consistent

* `export_order`: the exporter's depth-first traversal lists every module once, after the modules it
  instantiates, for any module DAG, any sharing and any list of tops.
* `target_width`: whatever the resolver + exporter produce for a connection (fragment F1) names declared
  signals only, stays inside their widths, and has the width of the connection (hence of the port,
  which `ConnTypes` compared it with).
* The full predicate `WFpkg` (Pkg.lean: unique names, ports name declared signals, references resolve
  to earlier modules / declared external modules / known primitives from the regenerated table, every
  target port connected exactly once, targets in range and of the port's width) is **executed** by the
  driver on every package the real code returns; that the composed passes and the exporter establish it is proved for
  designs of fragment F1 (`module_pipeline_wf`, `design_pipeline_wf`, `exported_names_unique`,
  `declarations_consistent`, put together in `package_wf_F1`).
-/
import Hdl21Model.Lemmas.ExportOrder
import Hdl21Model.Lemmas.Orphanage
import Hdl21Model.Lemmas.ModulePipe
import Hdl21Model.ExtDecl
namespace Hdl21.Props.C06
open Hdl21.ExportOrder

/-- The invariant carried through the traversal. -/
structure Inv (ch : Nat → List Nat) (l : List Nat) : Prop where
  closed : Closed ch l
  nodup : l.Nodup

/-- The last conjunct is why `m` is not yet listed when its children are done. -/
theorem exportModule_spec (ch : Nat → List Nat) (hdag : ∀ m c, c ∈ ch m → c < m) (fuel : Nat) (done : List Nat) (m : Nat)
    (hlt : m < fuel) (hinv : Inv ch done) :
    Inv ch (ExportOrder.exportModule ch fuel done m) ∧ done ⊆ ExportOrder.exportModule ch fuel done m ∧
      m ∈ ExportOrder.exportModule ch fuel done m ∧ ∀ x ∈ ExportOrder.exportModule ch fuel done m, x ∈ done ∨ x ≤ m := by
  induction fuel generalizing done m with
  | zero => exact absurd hlt (Nat.not_lt_zero m)
  | succ fuel ih =>
    rw [exportModule]
    split
    · rename_i hin; exact ⟨hinv, fun _ h => h, hin, fun x hx => .inl hx⟩
    · rename_i hnin
      obtain ⟨⟨hi, hnew⟩, hsub, hall⟩ :=
        foldl_chain (P := fun d => Inv ch d ∧ ∀ x ∈ d, x ∈ done ∨ x < m) (f := fun d c => exportModule ch fuel d c) (ch m)
          (fun d hd c hc => by
            have hcm := hdag m c hc
            obtain ⟨hi, hsub, hmem, hnew⟩ := ih d c (Nat.lt_of_lt_of_le hcm (Nat.le_of_lt_succ hlt)) hd.1
            exact ⟨⟨hi, fun x hx => (hnew x hx).elim (hd.2 x) fun hle => .inr (Nat.lt_of_le_of_lt hle hcm)⟩, hsub, hmem⟩)
          done ⟨hinv, fun x hx => .inl hx⟩
      have hm : m ∉ (ch m).foldl (fun d c => exportModule ch fuel d c) done :=
        fun h => (hnew m h).elim hnin (Nat.lt_irrefl m)
      refine ⟨⟨closed_snoc hi.closed hall, nodup_append_singleton hi.nodup hm⟩,
        fun x hx => List.mem_append_left _ (hsub hx), List.mem_append_right _ (List.mem_singleton_self m), fun x hx => ?_⟩
      rcases List.mem_append.mp hx with hx | hx
      · exact (hnew x hx).imp id Nat.le_of_lt
      · exact .inr (Nat.le_of_eq (List.eq_of_mem_singleton hx))

/-- **Definition before use, once each**: for any module DAG, sharing and list of tops, the exported
    module list has no duplicates, contains every top, and lists each module after everything it
    instantiates. -/
theorem export_order (ch : Nat → List Nat) (hdag : ∀ m c, c ∈ ch m → c < m) (tops : List Nat) (fuel : Nat)
    (hf : ∀ t ∈ tops, t < fuel) :
    Closed ch (exportTops ch fuel tops) ∧ (exportTops ch fuel tops).Nodup ∧ ∀ t ∈ tops, t ∈ exportTops ch fuel tops := by
  obtain ⟨hi, _, hall⟩ :=
    foldl_chain (P := Inv ch) (f := fun d t => exportModule ch fuel d t) tops
      (fun d hd t ht => let ⟨hi, hsub, hmem, _⟩ := exportModule_spec ch hdag fuel d t (hf t ht) hd; ⟨hi, hsub, hmem⟩)
      [] ⟨closed_nil ch, List.nodup_nil⟩
  exact ⟨hi.closed, hi.nodup, hall⟩

/-- non-vacuity: a diamond -/
example : exportTops (fun m => if m = 3 then [1, 2] else if m = 1 ∨ m = 2 then [0] else []) 4 [3] = [0, 1, 2, 3] := by
  decide +kernel

/-- Connection targets produced by resolver + exporter (F1) name only declared signals, stay inside
    their widths (C03 `exported_bits_in_range`), and carry exactly as many bits as the connection is wide. -/
theorem target_width (ws : List (String × Nat)) (fuel : Nat) (c r : SConn) (t : Pkg.PTarget) (w : Nat)
    (hok : sigsOK ws c = true) (hr : resolveSliceable fuel c = .ok r) (he : exportTarget r = .ok t)
    (hw : c.width = .ok w) : (Pkg.readTarget ws t).length = w := by
  obtain ⟨bs, hd, hl⟩ := width_denote hw
  rw [read_resolved hok hr he hd, List.length_map, hl]

section Modules
open Hdl21.Pkg Hdl21.RoundTrip Hdl21.ExportWF

/-- The exporter's module, for *any* signal list `ws` it writes that carries each of the module's signals once with a
    positive width, the ports among them, and over which the instances' connections are in order. -/
theorem export_core (ctx : PRef → Option (List (String × Nat))) (h : HModule) (ws : List (String × Nat))
    (hnames : (ws.map (·.1)).Nodup) (hwid : ∀ s ∈ ws, 0 < s.2)
    (hports : ∀ n ∈ h.ports.map (·.name), n ∈ ws.map (·.1)) (hpnd : (h.ports.map (·.name)).Nodup)
    (hdir : (h.ports.all fun s => (s.dir.bind (lookupS · exportDirMap)).isSome) = true)
    (hinames : (h.instances.map (·.name)).Nodup)
    (hinst : (h.instances.all (instOK ctx ws)) = true) :
    ∃ q ps, exportPorts h.ports = .ok q ∧ exportInsts h.instances = .ok ps ∧ ps.map (·.name) = h.instances.map (·.name) ∧
      ∀ (pkg : Package) (earlier : List PModule), (∀ r, targetPorts pkg earlier r = ctx r) →
        moduleProblems pkg earlier ⟨h.name, ws, q, ps⟩ = [] := by
  obtain ⟨q, hq⟩ := exportPorts_total hdir
  have hinst := List.all_eq_true.mp hinst
  obtain ⟨ps, hps⟩ := ModulePipe.All2.exists fun i hi => expInst_total (ExportWF.instOK_iff.mp (hinst i hi)).2.2
  have e2 : ps.map (·.name) = h.instances.map (·.name) := hps.map_eq fun _ _ hr => hr.1
  refine ⟨q, ps, hq, RoundTrip.exportInsts_ok_iff.mpr hps, e2, fun pkg earlier hctx => ?_⟩
  have hqn := exportPorts_names hq
  refine moduleProblems_nil hnames (hqn ▸ hpnd) (fun n hn => hports n (hqn ▸ hn)) (e2 ▸ hinames) hwid fun pi hpi => ?_
  obtain ⟨i, hi, hx⟩ := hps.mem_right hpi
  exact instOK_no_problems (hinst i hi) hx hctx

/-- Names are unique and every clause looks signals up by name (`lookup_perm`), so where in the list a signal stands does not matter. -/
theorem export_wf_any_order (ctx : PRef → Option (List (String × Nat))) (h : HModule) (hw : EWF ctx h = true)
    (ws : List (String × Nat)) (hp : ws.Perm (sigList h)) :
    ∃ q ps, exportPorts h.ports = .ok q ∧ exportInsts h.instances = .ok ps ∧ ps.map (·.name) = h.instances.map (·.name) ∧
      ∀ (pkg : Package) (earlier : List PModule), (∀ r, targetPorts pkg earlier r = ctx r) →
        moduleProblems pkg earlier ⟨h.name, ws, q, ps⟩ = [] := by
  obtain ⟨hnames, hwid, hdir, hinames, hinst⟩ := EWF_iff.mp hw
  have hsn : (sigList h).map (·.1) = (h.signals ++ h.ports).map (·.name) := by
    unfold sigList; rw [List.map_map]; rfl
  have hnd : (ws.map (·.1)).Nodup := (hp.map _).nodup_iff.mpr (hsn ▸ hnames)
  refine export_core ctx h ws hnd (fun s hs => ?_) (fun n hn => ?_) ?_ hdir hinames ?_
  · obtain ⟨x, hx, rfl⟩ := List.mem_map.mp (hp.subset hs)
    exact hwid x hx
  · rw [(hp.map _).mem_iff, hsn, List.map_append]
    exact List.mem_append_right _ hn
  · rw [List.map_append] at hnames
    exact (List.nodup_append.mp hnames).2.1
  · exact List.all_eq_true.mpr fun i hi => instOK_congr ctx ws (sigList h) (lookup_perm hnd hp) i ▸ hinst i hi

/-- **What the exporter writes for a well-formed elaborated module has none of the defects C06 lists**, in whatever package it
    ends up: signal, port and instance names unique, every port a declared signal, no zero-width signal, every instance of a
    defined target with each of its ports connected exactly once, to a target over declared signals, inside their widths, of the
    port's width. -/
theorem export_module_wf (ctx : PRef → Option (List (String × Nat))) (h : HModule) (hw : EWF ctx h = true) :
    ∃ p, RoundTrip.exportModule h = .ok p ∧ p.signals = sigList h ∧ p.instances.map (·.name) = h.instances.map (·.name) ∧
      ∀ (pkg : Package) (earlier : List PModule), (∀ r, targetPorts pkg earlier r = ctx r) → moduleProblems pkg earlier p = [] := by
  obtain ⟨q, ps, hq, e1, e2, hall⟩ := export_wf_any_order ctx h hw _ (List.Perm.refl _)
  exact ⟨⟨h.name, sigList h, q, ps⟩, exportModule_ok_iff.mpr ⟨q, ps, hq, e1, rfl⟩, rfl, e2, hall⟩

/-- **The same for the other layout.** An exporter that writes the ports' signals first and the internal ones after them
    (`exportModulePF`) produces, from the *same* state `EWF` describes, a module with no problems either: where in the list a
    signal stands does not enter any of the clauses, because names are unique and everything else looks signals up by name
    (`lookup_perm`). -/
theorem export_module_wf_ports_first (ctx : PRef → Option (List (String × Nat))) (h : HModule) (hw : EWF ctx h = true) :
    ∃ p, RoundTrip.exportModulePF h = .ok p ∧ p.signals = sigListPF h ∧ p.instances.map (·.name) = h.instances.map (·.name) ∧
      ∀ (pkg : Package) (earlier : List PModule), (∀ r, targetPorts pkg earlier r = ctx r) → moduleProblems pkg earlier p = [] := by
  obtain ⟨q, ps, hq, e1, e2, hall⟩ := export_wf_any_order ctx h hw (sigListPF h) (List.perm_append_comm.map _)
  exact ⟨⟨h.name, sigListPF h, q, ps⟩, by unfold RoundTrip.exportModulePF; rw [hq, e1]; rfl, rfl, e2, hall⟩

/-- **What the checking passes establish is what the exporter needs**: an instance whose connections pass `ConnTypes`
    (every port connected, width equal, nothing else — `conntypes_passes_iff`), are over the module's own signals (`Orphanage`)
    and are resolved to exportable form (`SliceResolver`) satisfies the instance part of `EWF`. -/
theorem checked_instance_is_instOK (ctx : PRef → Option (List (String × Nat))) (ws : List (String × Nat)) (i : HInst)
    (ports : List (String × Nat)) (hc : ctx i.ref = some ports)
    (hio : (ports.map (·.1)).Nodup) (hnd : (i.conns.map (·.1)).Nodup)
    (hpass : ConnTypes.passes ports i.conns = true)
    (hown : ∀ pc ∈ i.conns, sigsOK ws pc.2 = true ∧ ∃ t, exportTarget pc.2 = .ok t) :
    ExportWF.instOK ctx ws i = true := by
  obtain ⟨hall, hcov⟩ := (ModulePipe.passes_iff_conns hio hnd).mp hpass
  exact ExportWF.instOK_iff.mpr ⟨hnd, ⟨ports, hc, fun pc hpc => ⟨(hown pc hpc).1, hall pc hpc⟩, hcov⟩, fun pc hpc => (hown pc hpc).2⟩

/-- non-vacuity: a module with a port, an internal bus and a resistor between a bit of the bus and the port -/
def exH : HModule := ⟨"Top", [⟨"s", 2, none⟩], [⟨"a", 1, some "INPUT"⟩],
  [⟨"r1", .ext "vlsir.primitives" "resistor", [("r", "5")], [("p", .slice (.sig "s" 2) (.int 1)), ("n", .sig "a" 1)]⟩]⟩
def exCtxW : PRef → Option (List (String × Nat)) := fun r => if r = .ext "vlsir.primitives" "resistor" then some [("p", 1), ("n", 1)] else none
example : EWF exCtxW exH = true := by decide +kernel
end Modules

structure NInv (name : Nat → String) (s : NState) : Prop where
  nodup : (s.done.map name).Nodup
  reserved : ∀ x ∈ s.done, name x ∈ s.reserved

theorem exportNamed_spec (name : Nat → String) (children : Nat → List Nat) (fuel : Nat) (s : NState) (hi : NInv name s)
    (m : Nat) (s' : NState) (h : exportNamed name children fuel s m = some s') :
    NInv name s' ∧ NStep name s s' ∧ m ∈ s'.done := by
  induction fuel generalizing s m s' with
  | zero => cases h
  | succ fuel ih =>
    rw [exportNamed] at h
    split at h
    · cases h; exact ⟨hi, .refl name s, ‹m ∈ s.done›⟩
    split at h
    · cases h
    split at h
    · cases h
    rename_i hr _ s₂ hc
    cases h
    -- the name of `m` is reserved first; the children's loop then runs from a state that still satisfies `NInv`
    obtain ⟨hi₂, st, _⟩ := foldOpt_chain (children m) (fun s hs c _ => ih s hs c) { s with reserved := name m :: s.reserved } s₂
      ⟨hi.nodup, fun x hx => List.mem_cons_of_mem _ (hi.reserved x hx)⟩ hc
    have hnm : name m ∉ s₂.done.map name := by
      intro hin
      obtain ⟨x, hx, hxn⟩ := List.mem_map.mp hin
      rcases st.fresh x hx with h1 | h1
      · exact hr (hxn ▸ hi.reserved x h1)
      · exact h1 (hxn ▸ List.mem_cons_self ..)
    refine ⟨⟨?_, ?_⟩, ⟨?_, ?_, ?_⟩, List.mem_append_right _ (List.mem_singleton_self m)⟩
    · rw [List.map_append]; exact nodup_append_singleton hi₂.nodup hnm
    · intro x hx
      rcases List.mem_append.mp hx with hx | hx
      · exact hi₂.reserved x hx
      · obtain rfl := List.eq_of_mem_singleton hx
        exact st.mono _ (List.mem_cons_self ..)
    · exact fun n hn => st.mono n (List.mem_cons_of_mem _ hn)
    · exact fun x hx => List.mem_append_left _ (st.keep x hx)
    · intro x hx
      rcases List.mem_append.mp hx with hx | hx
      · exact (st.fresh x hx).imp id fun h hin => h (List.mem_cons_of_mem _ hin)
      · obtain rfl := List.eq_of_mem_singleton hx
        exact .inr hr

/-- **Module names are unique in every package that is returned**: whenever `export()` of any list of tops succeeds — the name
    of a module being reserved before its dependencies are exported — every top is in the package and no two modules of the
    package share a serialized name; in particular two different modules of one name below the tops make it raise. -/
theorem exported_names_unique (name : Nat → String) (children : Nat → List Nat) (fuel : Nat) (tops : List Nat) (s' : NState)
    (h : exportNamedTops name children fuel tops = some s') :
    (s'.done.map name).Nodup ∧ (∀ t ∈ tops, t ∈ s'.done) ∧
    ∀ x ∈ s'.done, ∀ y ∈ s'.done, name x = name y → x = y := by
  obtain ⟨hi, _, hall⟩ := foldOpt_chain tops (fun s hs c _ => exportNamed_spec name children fuel s hs c) ⟨[], []⟩ s'
    ⟨List.nodup_nil, nofun⟩ h
  exact ⟨hi.nodup, hall, fun _ hx _ hy => eq_of_nodup_map hi.nodup hx hy⟩

/-- two modules called "A" (0 and 2) below one top: refused; with distinct names: exported, dependencies first -/
example : exportNamedTops (fun m => if m = 2 then "A" else if m = 0 then "A" else "B") (fun m => if m = 3 then [0, 2] else []) 5 [3] = none ∧
    (exportNamedTops (fun m => if m = 0 then "A" else if m = 2 then "C" else "B") (fun m => if m = 3 then [0, 2] else []) 5 [3]).map (·.done) = some [0, 2, 3] := by
  decide +kernel

/-! ## "over the module's own signals" is what `Orphanage` checks -/
section Ownership
open Hdl21.Orphanage

/-- **The ownership hypothesis of `checked_instance_is_instOK` discharged**: a connection that passed `Orphanage` in module `me`
    and has been resolved to Signal / Slice / Concat form names only signals the module declares, with their widths — given that
    every Signal object parented by `me` is declared by `me` under its name and width (the namespace coherence of C18:
    `_parent_module` is set by, and only by, filing the object in the module's namespace). -/
theorem orphanage_gives_sigsOK (me : Nat) (ws : List (String × Nat)) (c : OConn) (s : SConn)
    (hcoh : ∀ n w, (n, w, some me) ∈ sigObjs c → Pkg.lookup n ws = some w)
    (hpass : checkConn me c = true) (hres : erase c = some s) :
    sigsOK ws s = true :=
  erase_sigsOK me ws c s hcoh hpass hres

/-- Without the check there is nothing to conclude: a signal of another module by the same name need not be declared here. -/
example : checkConn 7 (.sig "s" 2 (some 8)) = false ∧ (erase (.sig "s" 2 (some 8))).isSome = true ∧ sigsOK [] (.sig "s" 2) = false := by
  decide +kernel

example : checkConn 7 (.concat [.slice (.sig "s" 2 (some 7)) (.int 1), .sig "t" 1 (some 7)]) = true ∧
    sigsOK [("s", 2), ("t", 1)] (.concat [.slice (.sig "s" 2) (.int 1), .sig "t" 1]) = true := by decide +kernel

end Ownership

section Pipeline
open Hdl21.Pkg Hdl21.RoundTrip Hdl21.ExportWF Hdl21.ModulePipe

/-- **The passes establish what the exporter needs.** For a module of fragment F1 (ModulePipe.lean: connections are arbitrarily
    nested slices and concatenations of signals), whose namespace is a namespace (`ModOK`: one object per name, positive widths,
    directed ports, dict keys distinct): when the default pass list — `Orphanage, ConnTypes, SliceResolver, ConnTypesRepeat,
    OrphanageRepeat`, composed from the models each pass has of its own — answers, and the exporter does not refuse a stepped
    slice, the state the passes leave is `EWF`.  No hypothesis about intermediate states remains. -/
theorem elaborated_module_is_EWF (fuel : Nat) (ctx : PRef → Option (List (String × Nat))) (h e : HModule) (p : PModule)
    (hm : ModOK ctx h) (he : elabModule fuel ctx h = .ok e) (hx : RoundTrip.exportModule e = .ok p) :
    EWF ctx e = true := by
  obtain ⟨_, _, hs, hc', ho'⟩ := elabModule_inv he
  obtain ⟨is, hr, rfl⟩ := sliceResolver_ok_iff.mp hs
  obtain ⟨_, ps, _, hps, _⟩ := exportModule_ok_iff.mp hx
  have hm' := hm.resolved hr
  have hchk := (checks_iff hm').mp ⟨ho', hc'⟩
  refine EWF_iff.mpr ⟨hm'.names_nodup, hm'.widths_pos, hm'.ports_directed, hm'.inst_names_nodup, fun r hr' => ?_⟩
  refine instOK_iff.mpr ⟨hm'.conn_names_nodup r hr', hchk r hr', fun pc hpc => ?_⟩
  obtain ⟨pi, _, _, _, _, hcs⟩ := (exportInsts_ok_iff.mp hps).mem_left hr'
  obtain ⟨pt, _, _, ht⟩ := hcs.mem_left hpc
  exact ⟨pt.2, ht⟩

/-- **C06 for the module the composed passes hand to the exporter**: whatever `pipeline` (default pass list, then
    `export_module`) returns for an F1 module has none of the module-level defects C06 lists — signal, port and instance names
    unique, every port a declared signal, no zero-width signal, every instance of a defined target with each of its ports
    connected exactly once to a target over declared signals, inside their widths, as wide as the port — in whatever package
    it ends up. -/
theorem module_pipeline_wf (fuel : Nat) (ctx : PRef → Option (List (String × Nat))) (h : HModule) (p : PModule)
    (hm : ModOK ctx h) (hp : pipeline fuel ctx h = .ok p) :
    ∀ (pkg : Package) (earlier : List PModule), (∀ r, targetPorts pkg earlier r = ctx r) → moduleProblems pkg earlier p = [] := by
  obtain ⟨e, he, hx⟩ := pipeline_ok_iff.mp hp
  obtain ⟨p', hp', _, _, hall⟩ := export_module_wf ctx e (elaborated_module_is_EWF fuel ctx h e p hm he hx)
  cases hx.symm.trans hp'
  exact hall

/-- non-vacuity: `exH` (a resistor between bit 1 of a bus and a port) goes through, and a reversed slice of a concatenation is
    resolved on the way -/
example : (pipeline 40 exCtxW exH).toOption.map (fun p => p.instances.map fun i => i.conns.map fun pc => (pc.1, readTarget p.signals pc.2)) =
    some [[("p", [("s", 1)]), ("n", [("a", 0)])]] := by decide +kernel
example : (pipeline 40 (fun _ => some [("p", 2)])
    ⟨"T", [⟨"s", 2, none⟩, ⟨"t", 2, none⟩], [], [⟨"x", .ext "d" "n", [], [("p", .slice (.concat [.sig "s" 2, .sig "t" 2]) (.range (some 1) (some 3) none))]⟩]⟩).toOption.map
      (fun p => p.instances.map fun i => i.conns.map fun pc => (pc.1, readTarget p.signals pc.2)) =
    some [[("p", [("s", 1), ("t", 0)])]] := by decide +kernel
end Pipeline

section Hierarchy
open Hdl21.Pkg Hdl21.RoundTrip Hdl21.ModulePipe

/-- the module-local half of `ModOK` -/
def ModOK₀ (h : HModule) : Prop :=
  ((h.signals ++ h.ports).map (·.name)).Nodup ∧
  (∀ s ∈ h.signals ++ h.ports, 0 < s.width) ∧
  (h.ports.all fun s => (s.dir.bind (lookupS · exportDirMap)).isSome) = true ∧
  (h.instances.map (·.name)).Nodup ∧
  (∀ i ∈ h.instances, (i.conns.map (·.1)).Nodup)

/-- every primitive of the regenerated table has its ports under distinct names -/
theorem primitive_ports_distinct : primitivePorts.all (fun r => decide ((r.2.2.map (·.1)).Nodup)) = true := by decide +kernel

theorem map_fst_lookup (ports : List (String × String)) (sigs : List (String × Nat)) :
    (ports.map (fun (x : String × String) => (x.1, (lookup x.1 sigs).getD 0))).map (·.1) = ports.map (·.1) := by
  rw [List.map_map]; rfl

/-- what an instance can point to has its ports under distinct names, given that the modules exported so far and the declared
    external modules do -/
theorem ctx_ports_distinct (exts : List PExt) (acc : List PModule)
    (hacc : ∀ m ∈ acc, (m.ports.map (·.1)).Nodup) (hext : ∀ e ∈ exts, (e.ports.map (·.1)).Nodup) :
    ∀ r ports, targetPorts ⟨[], exts⟩ acc r = some ports → (ports.map (·.1)).Nodup := by
  intro r ports h
  cases r with
  | loc name =>
    obtain ⟨m, hf, rfl⟩ := Option.map_eq_some_iff.mp h
    exact (map_fst_lookup m.ports m.signals).symm ▸ hacc m (List.mem_of_find?_eq_some hf)
  | ext d n =>
    simp only [targetPorts] at h
    split at h
    · rename_i e hf
      cases h
      exact (map_fst_lookup e.ports e.signals).symm ▸ hext e (List.mem_of_find?_eq_some hf)
    · obtain ⟨r, hp, rfl⟩ := Option.map_eq_some_iff.mp h
      exact of_decide_eq_true (List.all_eq_true.mp primitive_ports_distinct r (List.mem_of_find?_eq_some hp))

/-- the runs of `pipeline` a run of `pipelineDesign` consists of: each module against the package as it stands, and in order there -/
inductive Runs (fuel : Nat) (exts : List PExt) : List PModule → List HModule → List PModule → Prop
  | nil {acc} : Runs fuel exts acc [] []
  | cons {acc h p rest new} : ModOK (targetPorts ⟨[], exts⟩ acc) h → pipeline fuel (targetPorts ⟨[], exts⟩ acc) h = .ok p →
      Runs fuel exts (acc ++ [p]) rest new → Runs fuel exts acc (h :: rest) (p :: new)

theorem Runs.all2 {fuel : Nat} {exts : List PExt} {acc new : List PModule} {hs : List HModule} (hr : Runs fuel exts acc hs new) :
    All2 (fun h p => ∃ earlier, earlier <+: acc ++ new ∧ ModOK (targetPorts ⟨[], exts⟩ earlier) h ∧
      pipeline fuel (targetPorts ⟨[], exts⟩ earlier) h = .ok p) hs new := by
  induction hr with
  | nil => exact .nil
  | cons hmod h1 _ ih =>
    refine .cons ⟨_, List.prefix_append _ _, hmod, h1⟩ (ih.imp fun _ _ ⟨e, hpre, hx⟩ => ⟨e, ?_, hx⟩)
    rwa [List.append_assoc] at hpre

/-- what every theorem about a whole design starts from: the exported module's port names are the module's, hence distinct, so the
    next module's targets have distinct ports again -/
theorem pipelineDesign_spec (fuel : Nat) (exts : List PExt) (hext : ∀ e ∈ exts, (e.ports.map (·.1)).Nodup) {hs : List HModule}
    {acc mods : List PModule} (hm : ∀ h ∈ hs, ModOK₀ h) (hacc : ∀ m ∈ acc, (m.ports.map (·.1)).Nodup)
    (hp : pipelineDesign fuel exts hs acc = .ok mods) : ∃ new, mods = acc ++ new ∧ Runs fuel exts acc hs new := by
  induction hs generalizing acc with
  | nil => cases hp; exact ⟨[], (List.append_nil _).symm, .nil⟩
  | cons h rest ih =>
    rw [pipelineDesign] at hp
    split at hp
    · rename_i p h1
      obtain ⟨m1, m2, m3, m4, m5⟩ := hm h (List.mem_cons_self ..)
      have hmod : ModOK (targetPorts ⟨[], exts⟩ acc) h := ⟨m1, m2, m3, m4, m5, ctx_ports_distinct exts acc hacc hext⟩
      obtain ⟨_, _, q, _, _, hq, _, rfl⟩ := (pipeline_spec hmod).mp h1
      have hpn : (q.map (·.1)).Nodup :=
        exportPorts_names hq ▸ (List.nodup_append.mp (List.map_append ▸ m1)).2.1
      obtain ⟨new, hnew, hrest⟩ := ih (fun x hx => hm x (List.mem_cons_of_mem _ hx))
        (fun m hmem => (List.mem_append.mp hmem).elim (hacc m) fun hm' => List.mem_singleton.mp hm' ▸ hpn) hp
      exact ⟨_ :: new, by rw [hnew, List.append_assoc]; rfl, .cons hmod h1 hrest⟩
    · cases hp

/-- **C06 for a whole F1 design.** Its modules — each with a namespace that is a namespace (`ModOK₀`), children first — go through
    the composed pass list and the exporter one after the other, every instance judged against what the package holds at that
    point (modules exported earlier, declared external modules with distinct port names, the primitive table).  If that returns,
    the package has **no module-level defect anywhere** (`problemsFrom … = []`: unique signal / port / instance names, ports on
    declared signals, no zero-width signal, every instance of something exported before it, declared or primitive, each of its
    ports connected exactly once to a target over declared signals, in range, as wide as the port).  With
    `exported_names_unique` (module names) and `declarations_consistent` (external modules) that is all of `WFpkg`. -/
theorem design_pipeline_wf (fuel : Nat) (exts : List PExt) (hext : ∀ e ∈ exts, (e.ports.map (·.1)).Nodup) :
    ∀ (hs : List HModule) (acc mods : List PModule), (∀ h ∈ hs, ModOK₀ h) → (∀ m ∈ acc, (m.ports.map (·.1)).Nodup) →
      pipelineDesign fuel exts hs acc = .ok mods →
      ∃ new, mods = acc ++ new ∧ ∀ (others : List PModule), problemsFrom ⟨others, exts⟩ acc new = [] := by
  intro hs acc mods hm hacc hp
  obtain ⟨new, hnew, hr⟩ := pipelineDesign_spec fuel exts hext hm hacc hp
  refine ⟨new, hnew, fun others => ?_⟩
  clear hm hacc hp hnew
  induction hr with
  | nil => rfl
  | cons hmod h1 _ ih =>
    unfold problemsFrom
    rw [module_pipeline_wf fuel _ _ _ hmod h1 ⟨others, exts⟩ _ (targetPorts_exts_only _ _ _ _), ih]
    rfl

/-- **`WFpkg` for F1 designs, every clause.** The package `to_proto` returns for a design of fragment F1 — all modules through the
    composed pass list and the exporter, children first — satisfies the whole of the executed C06 predicate, given what the other
    theorems of this file establish of their own parts: module names distinct (`exported_names_unique`) and external-module
    declarations distinct (`declarations_consistent`). -/
theorem package_wf_F1 (fuel : Nat) (exts : List PExt) (hext : ∀ e ∈ exts, (e.ports.map (·.1)).Nodup)
    (hs : List HModule) (mods : List PModule) (hm : ∀ h ∈ hs, ModOK₀ h)
    (hp : pipelineDesign fuel exts hs [] = .ok mods)
    (hnames : (mods.map (·.name)).Nodup) (hkeys : (exts.map (fun e => e.domain ++ "." ++ e.name)).Nodup) :
    WFpkg ⟨mods, exts⟩ = true := by
  obtain ⟨new, rfl, hprob⟩ := design_pipeline_wf fuel exts hext hs [] mods hm nofun hp
  unfold WFpkg problems
  rw [dups_nil_of_nodup _ hnames, dups_nil_of_nodup _ hkeys, hprob mods]
  rfl

/-- non-vacuity: a child with a two-bit port under a parent that wires it to a reversed slice of a (one-part) concatenation of a bus -/
example :
    let child : HModule := ⟨"Child", [], [⟨"d", 2, some "INPUT"⟩], [⟨"r", .ext "vlsir.primitives" "resistor", [], [("p", .slice (.sig "d" 2) (.int 0)), ("n", .slice (.sig "d" 2) (.int 1))]⟩]⟩
    let top : HModule := ⟨"Top", [⟨"bus", 4, none⟩], [], [⟨"c", .loc "Child", [], [("d", .slice (.concat [.sig "bus" 4]) (.range (some 3) (some 1) (some (-1))))]⟩]⟩
    (match pipelineDesign 40 [] [child, top] [] with
     | .ok mods => some (mods.map (·.name), problemsFrom ⟨mods, []⟩ [] mods)
     | .error _ => none) = some (["Child", "Top"], []) := by decide +kernel
end Hierarchy

section ExtDecls
open Hdl21.ExtDecl

/-- the package's declarations: one per qualified name -/
def KeysUnique (pkg : List Decl) : Prop := (pkg.map Decl.key).Nodup

/-- one declaration step: names stay unique, what was declared stays, and the object just declared is in the package **as it was
    given** — same widths, same ports, same spice type — so an instance checked against its own `ExternalModule` is checked
    against what the package declares.  (A step that compares names and port lists only — seed C06-r8-2 — files a declaration of
    other widths under the first one's name.) -/
theorem declare_spec (pkg pkg' : List Decl) (d : Decl) (hu : KeysUnique pkg) (h : declare pkg d = some pkg') :
    KeysUnique pkg' ∧ d ∈ pkg' ∧ (∀ o ∈ pkg, o ∈ pkg') ∧ (∀ o ∈ pkg', o ∈ pkg ∨ o = d) := by
  unfold declare at h
  split at h
  · rename_i o hf
    split at h
    · rename_i ho
      cases h
      exact ⟨hu, ho ▸ List.mem_of_find?_eq_some hf, fun _ h => h, fun _ h => .inl h⟩
    · cases h
  · rename_i hf
    cases h
    refine ⟨?_, List.mem_append_right _ (List.mem_singleton_self d), fun o ho => List.mem_append_left _ ho,
      fun o ho => (List.mem_append.mp ho).imp id List.eq_of_mem_singleton⟩
    have hk : d.key ∉ pkg.map Decl.key := fun hm =>
      let ⟨o, ho, hk⟩ := List.mem_map.mp hm
      List.find?_eq_none.mp hf o ho (decide_eq_true hk)
    rw [KeysUnique, List.map_append]
    exact nodup_append_singleton hu hk

/-- **Every package's external-module declarations are consistent**: whenever the exporter gets through all the `ExternalModule`
    objects of a design, the package declares each qualified name once, and every object met is declared exactly as given; two
    objects of one name that differ in anything the package says — a port's width included — make the export fail. -/
theorem declarations_consistent : ∀ (ds : List Decl) (pkg pkg' : List Decl), KeysUnique pkg → declareAll pkg ds = some pkg' →
    KeysUnique pkg' ∧ (∀ d ∈ ds, d ∈ pkg') ∧ (∀ o ∈ pkg, o ∈ pkg') := by
  intro ds pkg pkg' hu h
  induction ds generalizing pkg with
  | nil => cases h; exact ⟨hu, nofun, fun _ h => h⟩
  | cons d ds ih =>
    rw [declareAll] at h
    split at h
    · rename_i p1 hd
      obtain ⟨hu1, hin, hkeep, _⟩ := declare_spec pkg p1 d hu hd
      obtain ⟨hu2, hall, hkeep2⟩ := ih p1 hu1 h
      refine ⟨hu2, fun x hx => ?_, fun o ho => hkeep2 o (hkeep o ho)⟩
      rcases List.mem_cons.mp hx with rfl | hx
      · exact hkeep2 _ hin
      · exact hall x hx
    · cases h

theorem conflicting_declarations_refused (ds : List Decl) (pkg : List Decl) (hu : KeysUnique pkg) (a b : Decl)
    (ha : a ∈ ds) (hb : b ∈ ds) (hk : a.key = b.key) (hne : a ≠ b) : declareAll pkg ds = none := by
  cases h : declareAll pkg ds with
  | none => rfl
  | some pkg' =>
    obtain ⟨hu', hall, _⟩ := declarations_consistent ds pkg pkg' hu h
    exact absurd (eq_of_nodup_map hu' (hall a ha) (hall b hb) hk) hne

/-- non-vacuity: the same declaration twice is written once; the same name with an eight- and a sixteen-bit port is refused -/
example :
    let e8 : Decl := ⟨"lib", "EW", "SUBCKT", [("d", 8), ("q", 1)], [("d", "INPUT"), ("q", "OUTPUT")]⟩
    let e16 : Decl := ⟨"lib", "EW", "SUBCKT", [("d", 16), ("q", 1)], [("d", "INPUT"), ("q", "OUTPUT")]⟩
    (declareAll [] [e8, e8]).map List.length = some 1 ∧ declareAll [] [e8, e16] = none ∧ declareAll [] [e16, e8] = none := by decide +kernel
end ExtDecls

end Hdl21.Props.C06
