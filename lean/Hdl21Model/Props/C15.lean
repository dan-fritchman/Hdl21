/-
# C15 — PDK compilation swaps device targets and nothing else

**The walk** (any hierarchy, any sharing, any device map — `Pdk.lean`):
* `compile_keeps_structure`     modules, instance names, instance order and every connection are unchanged;
* `compile_touches_only_mapped` an instance's target changes only if it is a technology-mapped primitive in a
                                module the walk reaches, and then to exactly the device the map gives; all other
                                instances are untouched;
* `equal_params_same_device`    equal primitive parameters give the same device call;
* `compile_idempotent`          compiling twice equals compiling once (devices are external-module calls);
* `compile_error_is_a_device_error`  compilation fails only with the error of a request no device satisfies.
**Selection** — for any table: `select_by_key_sound`, `select_sky130_sound`, `select_gf180_sound` (what is found is
in the table, carries the requested name / type-family-threshold / type-family, and for Gf180 is the only such);
over the tables regenerated from /repo on every run, by evaluation in the kernel:
* `*_keys_unique`, `*_every_entry_by_its_model_name`   each entry of each table is what its own name selects (the
                                keys are distinct, evaluated; the rest follows for any table with distinct keys);
* `sky130_every_triple_selects`, `gf180_every_pair_resolves`   every type/family/threshold triple (Sky130) or
                                type/family pair (Gf180) carried by some entry selects an entry carrying it — for Gf180
                                that very entry, or the descriptive ambiguity error when several carry the pair;
* `*_defaults_present`          every device the code looks up a default size for has one;
* `*_ports_partial`             device ports are the primitive's ports (each connected exactly once after the swap) —
                                for every entry **except** those in `knownPortMismatch*`, for which the negation is proved
                                (`*_port_mismatch_witness`): five-terminal Mos and four-terminal bipolar devices, recorded as
                                known findings; resistor / capacitor entries fit exactly one of the two- and three-terminal
                                primitives (`*_fit_one_primitive`).
**Registry**: `registry_default`, `registry_by_name`, `registry_by_module`.
**The per-parameter tables of device calls** (section `Tables`, the theory of `Memo.lean`): `device_calls_are_history_free` — a coherent
table answers every request of every history as the selection itself does.
-/
import Hdl21Model.Lemmas.Pdk
import Hdl21Model.Generated.PdkTables
import Hdl21Model.Memo
namespace Hdl21.Props.C15
open Hdl21.Pdk

/-- Hierarchy, instance names and order, and every connection are as they were. -/
theorem compile_keeps_structure (dm : DevMap) (reach : Nat → Bool) (d d' : Design) (h : compile dm reach d = .ok d') :
    d'.length = d.length ∧
    ∀ (n : Nat) (m m' : Mod), d[n]? = some m → d'[n]? = some m' →
      m'.name = m.name ∧ m'.insts.map (·.name) = m.insts.map (·.name) ∧
      m'.insts.map (·.conns) = m.insts.map (·.conns) ∧ m'.insts.length = m.insts.length := by
  obtain ⟨hl, hall⟩ := compileFrom_spec h
  refine ⟨hl, fun n m m' hm hm' => ?_⟩
  rcases hall n m m' hm hm' with rfl | ⟨_, insts, hv, rfl⟩
  · exact ⟨rfl, rfl, rfl, rfl⟩
  · have keeps : ∀ i i', visitInst dm i = .ok i' → i'.name = i.name ∧ i'.conns = i.conns := fun i i' hi => by
      obtain ⟨t, rfl, _⟩ := visitInst_spec hi
      exact ⟨rfl, rfl⟩
    have hv' := mapM_ok_iff.mp hv
    exact ⟨rfl, hv'.map_eq fun i i' hi => (keeps i i' hi).1, hv'.map_eq fun i i' hi => (keeps i i' hi).2, mapM_length hv⟩

/-- Only technology-mapped primitives in reached modules change target, and to what the device map says. -/
theorem compile_touches_only_mapped (dm : DevMap) (reach : Nat → Bool) (d d' : Design) (h : compile dm reach d = .ok d')
    (n : Nat) (m m' : Mod) (hm : d[n]? = some m) (hm' : d'[n]? = some m')
    (j : Nat) (i i' : Inst) (hi : m.insts[j]? = some i) (hi' : m'.insts[j]? = some i') :
    i'.target = i.target ∨ (reach n = true ∧ ∃ k p, i.target = .prim k p ∧ dm k p = some (.ok i'.target)) := by
  rcases (compileFrom_spec h).2 n m m' hm hm' with rfl | ⟨hr, insts, hv, rfl⟩
  · rw [hi] at hi'; cases hi'
    exact Or.inl rfl
  · rw [Nat.zero_add] at hr
    obtain ⟨t, rfl, rfl | ⟨k, p, ht, hd⟩⟩ := visitInst_spec (mapM_getElem? hv hi hi')
    · exact Or.inl rfl
    · exact Or.inr ⟨hr, k, p, ht, hd⟩

/-- Equal primitive parameters give the same device call. -/
theorem equal_params_same_device (dm : DevMap) (i₁ i₂ i₁' i₂' : Inst)
    (h₁ : visitInst dm i₁ = .ok i₁') (h₂ : visitInst dm i₂ = .ok i₂') (ht : i₁.target = i₂.target) :
    i₁'.target = i₂'.target := by
  have h := visitInst_target_congr dm ht
  rw [h₁, h₂] at h
  injection h

/-- a device map whose devices are external-module calls (what every PDK's is) -/
def DevicesAreExternal (dm : DevMap) : Prop := ∀ k p t, dm k p = some (.ok t) → ∃ n q, t = .ext n q

/-- Compiling twice equals compiling once: what the first compilation left is left again, instance by instance.
    (Stated per instance: an unmapped primitive stays as it is both times, a mapped one became an external call.) -/
theorem compile_idempotent (dm : DevMap) (hd : DevicesAreExternal dm) (i i' : Inst) (h : visitInst dm i = .ok i') :
    visitInst dm i' = .ok i' := by
  obtain ⟨t, rfl, rfl | ⟨k, p, _, hdm⟩⟩ := visitInst_spec h
  · exact h
  · obtain ⟨n, q, rfl⟩ := hd k p t hdm
    rfl

theorem visitInst_idem {dm : DevMap} (hd : DevicesAreExternal dm) {i i' : Inst} (h : visitInst dm i = .ok i')
    (hm : ∀ k p, i.target = .prim k p → dm k p ≠ none) : visitInst dm i' = .ok i' :=
  compile_idempotent dm hd i i' h

/-- A failing compilation fails with the error of some request that no device satisfies. -/
theorem compile_error_is_a_device_error {dm : DevMap} {reach : Nat → Bool} : ∀ {k : Nat} {d : List Mod} {e : String},
    compileFrom dm reach k d = .error e →
    ∃ m ∈ d, ∃ i ∈ m.insts, ∃ kd p, i.target = .prim kd p ∧ dm kd p = some (.error e) := by
  intro k d e h
  rw [compileFrom_eq_mapM] at h
  obtain ⟨mn, hmn, hs⟩ := mapM_error h
  split at hs
  · rw [visitMod_eq, Except.map_eq_error] at hs
    obtain ⟨i, hi, hie⟩ := mapM_error hs
    exact ⟨mn.1, List.fst_mem_of_mem_zipIdx hmn, i, hi, visitInst_error hie⟩
  · cases hs

/-! ## Selection, for any table -/

theorem select_by_key_sound (tbl : List MosEntry) (model : String) (e : MosEntry)
    (h : selectByKey tbl model = some e) : e ∈ tbl ∧ e.key = model :=
  ⟨List.mem_of_find?_eq_some h, by simpa using List.find?_some h⟩

theorem select_sky130_sound (tbl : List MosEntry) (r : MosReq) (e : MosEntry) (h : selectMosSky130 tbl r = .found e) :
    e ∈ tbl ∧ (match r.model with
      | some m => e.key = m
      | none => e.tp = r.tp ∧ e.fam = some r.fam ∧ e.vth = some r.vth) := by
  cases hm : r.model with
  | some m => exact select_by_key_sound tbl m e ((selectMos_by_name hm).1.1 h)
  | none =>
    simp only [selectMosSky130, hm] at h ⊢
    split at h <;> cases h
    rename_i hf
    have := List.find?_some hf
    simp only [matchesSky, Bool.and_eq_true, beq_iff_eq] at this
    exact ⟨List.mem_of_find?_eq_some hf, this.1.1, this.1.2, this.2⟩

theorem select_gf180_sound (tbl : List MosEntry) (r : MosReq) (e : MosEntry) (h : selectMosGf180 tbl r = .found e) :
    e ∈ tbl ∧ (match r.model with
      | some m => e.key = m
      | none => e.tp = r.tp ∧ e.fam = some r.fam ∧ ∀ e' ∈ tbl, matchesGf r e' = true → e' = e) := by
  cases hm : r.model with
  | some m => exact select_by_key_sound tbl m e ((selectMos_by_name hm).2.1 h)
  | none =>
    simp only [selectMosGf180, hm] at h ⊢
    split at h <;> cases h
    rename_i hf
    -- the filter's only member: what is in the table and matches, is `e`
    have mem (e' : MosEntry) : e' ∈ tbl ∧ matchesGf r e' = true ↔ e' = e := by
      rw [← List.mem_filter, hf, List.mem_singleton]
    obtain ⟨ha, hmatch⟩ := (mem e).2 rfl
    simp only [matchesGf, Bool.and_eq_true, beq_iff_eq] at hmatch
    exact ⟨ha, hmatch.1, hmatch.2, fun e' he' hme' => (mem e').1 ⟨he', hme'⟩⟩

/-! ## The tables of /repo (regenerated on every run) -/
open Hdl21.Pdk.Gen

/-- the request for `e`'s own type, threshold and family; where the entry leaves one open, `MosParams`' default
    (`vth = MosVth.STD`, `family = MosFamily.NONE`, hdl21/primitives.py) -/
def reqOf (e : MosEntry) : MosReq := { model := none, tp := e.tp, vth := e.vth.getD "STD", fam := e.fam.getD "NONE" }

theorem sky130_keys_unique : (sky130Xtors.map (·.key)).Nodup := nodup_of_strCode (by decide +kernel)
theorem gf180_keys_unique : (gf180Xtors.map (·.key)).Nodup := nodup_of_strCode (by decide +kernel)

theorem sky130_every_entry_by_its_model_name :
    sky130Xtors.all (fun e => selectMosSky130 sky130Xtors { reqOf e with model := some e.key } == .found e) = true :=
  List.all_eq_true.2 fun _ he => beq_iff_eq.2 ((selectMos_by_name rfl).1.2 (selectByKey_self sky130_keys_unique he))
theorem gf180_every_entry_by_its_model_name :
    gf180Xtors.all (fun e => selectMosGf180 gf180Xtors { reqOf e with model := some e.key } == .found e) = true :=
  List.all_eq_true.2 fun _ he => beq_iff_eq.2 ((selectMos_by_name rfl).2.2 (selectByKey_self gf180_keys_unique he))

/-- every triple carried by an entry selects an entry carrying that triple (the first listed) -/
theorem sky130_every_triple_selects :
    sky130Xtors.all (fun e => match selectMosSky130 sky130Xtors (reqOf e) with
      | .found e' => e'.tp == e.tp && e'.vth == e.vth && e'.fam == e.fam
      | _ => false) = true := by decide +kernel

/-- every (type, family) pair carried by an entry selects that entry, or — several entries carrying it — is refused as ambiguous -/
theorem gf180_every_pair_resolves :
    gf180Xtors.all (fun e => match selectMosGf180 gf180Xtors (reqOf e) with
      | .found e' => e' == e
      | .ambiguous => decide ((gf180Xtors.filter (matchesGf (reqOf e))).length ≥ 2)
      | .noDevice => false) = true := by decide +kernel

/-- the documented Gf180 selections: CORE and IO devices by type and family -/
theorem gf180_core_and_io_selected :
    (gf180Xtors.filter (fun e => e.fam == some "CORE" || e.fam == some "IO")).all
      (fun e => selectMosGf180 gf180Xtors (reqOf e) == .found e) = true := by decide +kernel

theorem model_tables_keys_unique :
    (sky130Ress.map (·.key)).Nodup ∧ (sky130Caps.map (·.key)).Nodup ∧ (sky130Diodes.map (·.key)).Nodup ∧ (sky130Bjts.map (·.key)).Nodup ∧
    (gf180Ress.map (·.key)).Nodup ∧ (gf180Caps.map (·.key)).Nodup ∧ (gf180Diodes.map (·.key)).Nodup ∧ (gf180Bjts.map (·.key)).Nodup := by
  refine ⟨?_, ?_, ?_, ?_, ?_, ?_, ?_, ?_⟩ <;> exact nodup_of_strCode (by decide +kernel)

theorem model_tables_every_entry_by_its_model_name :
    [sky130Ress, sky130Caps, sky130Diodes, sky130Bjts, gf180Ress, gf180Caps, gf180Diodes, gf180Bjts].all
      (fun tbl => tbl.all fun e => selectModel tbl (some e.key) == .found e) = true := by
  have each {tbl : List ModelEntry} (h : (tbl.map (·.key)).Nodup) :
      (tbl.all fun e => selectModel tbl (some e.key) == .found e) = true :=
    List.all_eq_true.2 fun _ he => beq_iff_eq.2 (selectModel_self h he)
  -- the eight tables of `model_tables_keys_unique`, in its order: `each hᵢ` is the list's i-th conjunct
  obtain ⟨h1, h2, h3, h4, h5, h6, h7, h8⟩ := model_tables_keys_unique
  simp only [List.all_cons, List.all_nil, each h1, each h2, each h3, each h4, each h5, each h6, each h7, each h8, Bool.and_self]

def hasSize (tbl : List SizeEntry) (modname : String) : Bool := (sizeOf? tbl modname).isSome

theorem sky130_defaults_present :
    sky130Xtors.all (fun e => hasSize sky130DefaultXtor e.modname) = true ∧
    (sky130Ress.filter (·.paramtype == "Sky130GenResParams")).all (fun e => hasSize sky130DefaultGenRes e.modname) = true ∧
    (sky130Ress.filter (·.paramtype == "Sky130PrecResParams")).all (fun e => (sky130DefaultPrecResL.find? (·.1 == e.modname)).isSome) = true ∧
    sky130Ress.all (fun e => e.paramtype == "Sky130GenResParams" || e.paramtype == "Sky130PrecResParams") = true ∧
    sky130Caps.all (fun e => hasSize sky130DefaultCap e.modname) = true :=
  ⟨all_find?_isSome_of_strCode MosEntry.modname SizeEntry.modname (by decide +kernel),
   all_find?_isSome_of_strCode ModelEntry.modname SizeEntry.modname (by decide +kernel),
   all_find?_isSome_of_strCode ModelEntry.modname Prod.fst (by decide +kernel),
   by decide +kernel,
   all_find?_isSome_of_strCode ModelEntry.modname SizeEntry.modname (by decide +kernel)⟩

theorem gf180_defaults_present :
    gf180Xtors.all (fun e => hasSize gf180DefaultXtor e.modname) = true ∧
    gf180Ress.all (fun e => hasSize gf180DefaultRes e.modname) = true ∧
    gf180Diodes.all (fun e => hasSize gf180DefaultDiode e.modname) = true :=
  ⟨all_find?_isSome_of_strCode MosEntry.modname SizeEntry.modname (by decide +kernel),
   all_find?_isSome_of_strCode ModelEntry.modname SizeEntry.modname (by decide +kernel),
   all_find?_isSome_of_strCode ModelEntry.modname SizeEntry.modname (by decide +kernel)⟩

def portsOf (prim : String) : List String := ((primPorts.find? (·.1 == prim)).map (·.2)).getD []

/-- devices recorded as known findings: their port lists are not those of the primitive they are compiled from -/
def knownPortMismatchSky130Xtors : List String := ["NMOS_ISO_20p0V"]
def knownPortMismatchSky130Bjts : List String := ["NPN_5p0V_1x2", "NPN_11p0V_1x1", "NPN_5p0V_1x1"]
def knownPortMismatchGf180Bjts : List String :=
  ["NPN_10p0x10p0", "NPN_5p0x5p0", "NPN_0p54x16p0", "NPN_0p54x8p0", "NPN_0p54x4p0", "NPN_0p54x2p0"]

/-- Mos devices have the Mos primitive's ports, so each is connected exactly once after the swap — partial: all but the known findings -/
theorem mos_ports_partial :
    (sky130Xtors.filter (fun e => !(knownPortMismatchSky130Xtors.contains e.key))).all (fun e => samePorts e.ports (portsOf "Mos")) = true ∧
    gf180Xtors.all (fun e => samePorts e.ports (portsOf "Mos")) = true := by decide +kernel

/-- … and the negation for the recorded devices: their ports are not the primitive's (replayed on the implementation by the check) -/
theorem mos_port_mismatch_witness :
    (sky130Xtors.filter (fun e => knownPortMismatchSky130Xtors.contains e.key)).all (fun e => !(samePorts e.ports (portsOf "Mos"))) = true ∧
    (sky130Xtors.filter (fun e => knownPortMismatchSky130Xtors.contains e.key)).length = knownPortMismatchSky130Xtors.length := by decide +kernel

theorem bjt_ports_partial :
    (sky130Bjts.filter (fun e => !(knownPortMismatchSky130Bjts.contains e.key))).all (fun e => samePorts e.ports (portsOf "Bipolar")) = true ∧
    (gf180Bjts.filter (fun e => !(knownPortMismatchGf180Bjts.contains e.key))).all (fun e => samePorts e.ports (portsOf "Bipolar")) = true := by decide +kernel

/-- `3` and `6` are the lengths of the two lists of recorded names: each name is an entry -/
theorem bjt_port_mismatch_witness :
    (sky130Bjts.filter (fun e => knownPortMismatchSky130Bjts.contains e.key)).all (fun e => !(samePorts e.ports (portsOf "Bipolar"))) = true ∧
    (gf180Bjts.filter (fun e => knownPortMismatchGf180Bjts.contains e.key)).all (fun e => !(samePorts e.ports (portsOf "Bipolar"))) = true ∧
    (sky130Bjts.filter (fun e => knownPortMismatchSky130Bjts.contains e.key)).length = 3 ∧
    (gf180Bjts.filter (fun e => knownPortMismatchGf180Bjts.contains e.key)).length = 6 := by decide +kernel

theorem diode_ports :
    sky130Diodes.all (fun e => samePorts e.ports (portsOf "Diode")) = true ∧
    gf180Diodes.all (fun e => samePorts e.ports (portsOf "Diode")) = true := by decide +kernel

/-- every resistor / capacitor device has the ports of exactly one of the two- and three-terminal primitives -/
theorem res_cap_fit_one_primitive :
    (sky130Ress ++ gf180Ress).all (fun e =>
      (samePorts e.ports (portsOf "PhysicalResistor")) != (samePorts e.ports (portsOf "ThreeTerminalResistor"))) = true ∧
    (sky130Caps ++ gf180Caps).all (fun e =>
      (samePorts e.ports (portsOf "PhysicalCapacitor")) != (samePorts e.ports (portsOf "ThreeTerminalCapacitor"))) = true := by decide +kernel

theorem size_given_or_default (given : Option String) (dflt : String) :
    (∀ v, given = some v → givenOr given dflt = v) ∧ (given = none → givenOr given dflt = dflt) :=
  ⟨fun _ h => h ▸ rfl, fun h => h ▸ rfl⟩

/-- by default: the default that was set, else the only registered PDK, else refused -/
theorem registry_default (r : Registry) :
    (∀ d, r.dflt = some d → (r.resolve .none).2 = some d) ∧
    (∀ m, r.dflt = none → r.mods = [m] → (r.resolve .none).2 = some m) ∧
    (r.dflt = none → r.mods.length ≠ 1 → (r.resolve .none).2 = none) := by
  refine ⟨?_, ?_, ?_⟩
  · intro d h; simp [Registry.resolve, Registry.default, h]
  · intro m h hm; simp [Registry.resolve, Registry.default, h, hm]
  · intro h hl
    simp only [Registry.resolve, Registry.default, h]
    match hm : r.mods with
    | [] => rfl
    | [m] => simp [hm] at hl
    | _ :: _ :: _ => rfl

theorem registry_by_name (r : Registry) (s : String) :
    (s ∈ r.mods → (r.resolve (.name s)).2 = some s) ∧ (s ∉ r.mods → (r.resolve (.name s)).2 = none) :=
  ⟨fun h => if_pos h, fun h => if_neg h⟩

/-- by module: a valid PDK module is accepted whether or not it was registered before, and is registered afterwards -/
theorem registry_by_module (r : Registry) (m : String) :
    (r.resolve (.module m true)).2 = some m ∧ m ∈ (r.resolve (.module m true)).1.mods ∧
    (r.resolve (.module m false)).2 = none := by
  refine ⟨rfl, ?_, rfl⟩
  show m ∈ (r.register m).mods
  unfold Registry.register
  split
  · assumption
  · exact List.mem_append_right _ (List.mem_singleton_self m)

/-! Non-vacuity: a two-level design with a shared child; the Mos is swapped, the resistor is not. -/
def exDm : DevMap := fun k p => if k = "Mos" then some (.ok (.ext "nfet" p)) else none
def exChild : Mod := ⟨"C", [⟨"m", .prim "Mos" 1, [("d", "a")]⟩, ⟨"r", .prim "R" 2, [("p", "a")]⟩]⟩
def exTop : Mod := ⟨"T", [⟨"c1", .module 0, []⟩, ⟨"c2", .module 0, []⟩]⟩
example : (match compile exDm (fun _ => true) [exChild, exTop] with
    | .ok d => d == [⟨"C", [⟨"m", .ext "nfet" 1, [("d", "a")]⟩, ⟨"r", .prim "R" 2, [("p", "a")]⟩]⟩, exTop]
    | .error _ => false) = true := by decide +kernel

/-! ## the per-parameter tables of device calls (`CACHE.mos_modcalls`, …): what a request compiles to does not depend on earlier requests -/
section Tables
open Hdl21.Memo
variable {K V E : Type} [DecidableEq K]

/-- one request against a coherent table: the answer is the fresh answer, and the table stays coherent -/
theorem request_is_fresh_answer (f : K → Except E V) (c : List (K × V)) (k : K) (hc : Coherent f c) :
    (request f c k).2 = f k ∧ Coherent f (request f c k).1 := by
  unfold request
  cases hl : lookup k c with
  | some v => exact ⟨(hc k v hl).symm, hc⟩
  | none =>
    cases hf : f k with
    | error e => exact ⟨rfl, hc⟩
    | ok v =>
      refine ⟨rfl, fun k' v' h' => ?_⟩
      rw [lookup] at h'
      split at h'
      · rename_i hk; cases h'; exact hk ▸ hf
      · exact hc k' v' h'

/-- **Selection does not depend on history.** Whatever the process compiled before — any requests, in any order, answered or
    refused — every request is answered as a fresh process answers it: by `f`, the selection over the device tables. (A table in
    which an answer is filed under another request's parameters is not coherent; seed C15-r8-2 did that.) -/
theorem device_calls_are_history_free (f : K → Except E V) : ∀ (ks : List K) (c : List (K × V)), Coherent f c →
    (serve f c ks).2 = ks.map f ∧ Coherent f (serve f c ks).1 := by
  intro ks
  induction ks with
  | nil => exact fun c hc => ⟨rfl, hc⟩
  | cons k ks ih =>
    intro c hc
    obtain ⟨h1, h2⟩ := request_is_fresh_answer f c k hc
    obtain ⟨h3, h4⟩ := ih (request f c k).1 h2
    unfold serve
    exact ⟨by simp only [List.map_cons]; rw [h1, h3], h4⟩

/-- … in particular from the empty table a process starts with; and a refused request leaves no entry, so asking again asks `f` again -/
theorem device_calls_from_a_fresh_process (f : K → Except E V) (before : List K) (k : K) :
    (request f (serve f [] before).1 k).2 = f k :=
  (request_is_fresh_answer f _ k (device_calls_are_history_free f before [] nofun).2).1

theorem refused_request_is_not_filed (f : K → Except E V) (c : List (K × V)) (k : K) (e : E)
    (hl : lookup k c = none) (hf : f k = .error e) : (request f c k).1 = c := by
  unfold request; rw [hl, hf]

/-- non-vacuity, and the converse: one entry filed under a neighbour's key makes a later request answer wrongly -/
example : (serve (fun (k : Nat) => if k = 0 then (.error "no device" : Except String Nat) else .ok (k * 10)) [] [3, 0, 3, 5, 0]).2.map Except.toOption =
    [some 30, none, some 30, some 50, none] := by decide
example : (request (fun (k : Nat) => (.ok (k * 10) : Except String Nat)) [(5, 30)] 5).2.toOption = some 30 := by decide
end Tables

end Hdl21.Props.C15
