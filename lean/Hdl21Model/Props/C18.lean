/-
# C18 — Module and bundle namespaces stay coherent under any edit sequence

`Coh s`: every name denotes at most one object and all views agree on it —
the per-kind views are exactly the namespace filtered by kind (so a signal is listed as a
port exactly when it has port visibility), the object bound to a name carries that name
and reports this container as its parent (hence no object is bound under two names).
Proved invariant of every operation and lifted to every finite operation sequence, for the
Module and the Bundle configuration alike (any `Cfg`).
-/
import Hdl21Model.Lemmas.Namespace
namespace Hdl21.Props.C18
open Hdl21.NS

structure Coh (names : List String) (s : State) : Prop where
  views : ∀ n k, s.view k n = (match s.ns n with
                               | some o => if k = o.kind then some o else none
                               | none => none)
  owned : ∀ n o, s.ns n = some o → s.parented o.id = true ∧ s.nameOf o.id = some n
  dom : ∀ n o, s.ns n = some o → n ∈ names
  named : ∀ i n, s.nameOf i = some n → n ∈ names

theorem coh_init (names : List String) (nm : Nat → Option String)
    (hnm : ∀ i n, nm i = some n → n ∈ names) : Coh names (State.init nm) :=
  ⟨fun _ _ => rfl, fun _ _ h => (nomatch h), fun _ _ h => (nomatch h), hnm⟩

/-- No object is bound under two names (a consequence of `owned`). -/
theorem Coh.injective {names s} (h : Coh names s) {n m : String} {o p : Obj}
    (hn : s.ns n = some o) (hm : s.ns m = some p) (hid : o.id = p.id) : n = m := by
  have a := (h.owned n o hn).2
  have b := (h.owned m p hm).2
  rw [hid] at a; rw [a] at b; exact Option.some.inj b

/-- The part of coherence that survives adoption of objects by *other* containers
    (which rewrites their name and parent reference behind this container's back):
    the views still agree with the namespace and no object is bound under two names. -/
structure Coh' (names : List String) (s : State) : Prop where
  views : ∀ n k, s.view k n = (match s.ns n with
                               | some o => if k = o.kind then some o else none
                               | none => none)
  inj : ∀ n m o p, s.ns n = some o → s.ns m = some p → o.id = p.id → n = m
  dom : ∀ n o, s.ns n = some o → n ∈ names

theorem Coh.weaken {names s} (h : Coh names s) : Coh' names s :=
  ⟨h.views, fun _ _ _ _ hn hm hid => h.injective hn hm hid, h.dom⟩

theorem coh'_addCore {names s o n} (h : Coh' names s) (hn : n ∈ names)
    (hal : aliased names s o n = false) : Coh' names (addCore s o n) := by
  have hna := not_aliased hal
  refine ⟨?_, ?_, ?_⟩
  · intro m k
    rw [addCore_view, addCore_ns]
    by_cases hm : m = n
    · rw [if_pos hm, if_pos hm]
    · rw [if_neg hm, if_neg hm]; exact h.views m k
  · intro a b x y ha hb hid
    rcases addCore_ns_eq_some_iff.mp ha with ⟨rfl, rfl⟩ | ⟨h1, ha'⟩ <;>
      rcases addCore_ns_eq_some_iff.mp hb with ⟨rfl, rfl⟩ | ⟨h2, hb'⟩
    · rfl
    · exact absurd hid.symm (hna b y (h.dom b y hb') h2 hb')
    · exact absurd hid (hna a x (h.dom a x ha') h1 ha')
    · exact h.inj a b x y ha' hb' hid
  · intro m p hp
    rcases addCore_ns_eq_some_iff.mp hp with ⟨rfl, _⟩ | ⟨_, hp'⟩
    · exact hn
    · exact h.dom m p hp'

/-- `views` and `dom` come from `coh'_addCore`; what is new is that every held object still reports this
    container and its own name: only the object whose name is taken over loses its parent. -/
theorem coh_addCore {names s o n} (h : Coh names s) (hn : n ∈ names)
    (hal : aliased names s o n = false) : Coh names (addCore s o n) := by
  have h' := coh'_addCore h.weaken hn hal
  refine ⟨h'.views, ?_, h'.dom, ?_⟩
  · intro m p hp
    rcases addCore_ns_eq_some_iff.mp hp with ⟨rfl, rfl⟩ | ⟨hm, hp'⟩
    · exact ⟨addCore_parented_self, by rw [addCore_nameOf, if_pos rfl]⟩
    · have hpo : p.id ≠ o.id := not_aliased hal m p (h.dom m p hp') hm hp'
      rw [addCore_nameOf, if_neg hpo, addCore_parented_of_ne hpo fun q hq hid => hm (h.injective hp' hq hid.symm)]
      exact h.owned m p hp'
  · intro i m hi
    rw [addCore_nameOf] at hi
    split at hi
    · exact Option.some.inj hi ▸ hn
    · exact h.named i m hi

theorem coh_step (cfg : Cfg) (names : List String) (s : State) (op : Op)
    (h : Coh names s) (hop : ∀ n ∈ op.names, n ∈ names) (hloc : op.local = true) :
    Coh names (step cfg names s op).1 :=
  -- freezing touches no field `Coh` reads: the same four proofs, retyped at `{ s with frozen := true }`; a local operation is no adoption
  step_cases cfg names s op h ⟨h.views, h.owned, h.dom, h.named⟩
    (fun _ n hn ha => coh_addCore h (hn.elim (hop n) (h.named _ n)) ha.fresh)
    fun hl => absurd (hloc.symm.trans hl) Bool.noConfusion

/-- Coherence holds after every finite operation sequence. -/
theorem coh_run (cfg : Cfg) (names : List String) (ops : List Op) (s : State)
    (h : Coh names s) (hops : ∀ op ∈ ops, ∀ n ∈ op.names, n ∈ names)
    (hloc : ∀ op ∈ ops, op.local = true) :
    Coh names (run cfg names s ops).1 := by
  induction ops generalizing s with
  | nil => exact h
  | cons op ops ih =>
    exact ih _ (coh_step cfg names s op h (hops op (.head _)) (hloc op (.head _)))
      (fun o ho => hops o (.tail _ ho)) (fun o ho => hloc o (.tail _ ho))

/-- Views/namespace agreement and one-name-per-object hold after **every** operation,
    including adoption of held objects by other containers in between. -/
theorem coh'_step (cfg : Cfg) (names : List String) (s : State) (op : Op)
    (h : Coh' names s) (hop : ∀ n ∈ op.names, n ∈ names)
    (hnamed : ∀ i n, s.nameOf i = some n → n ∈ names) : Coh' names (step cfg names s op).1 :=
  step_cases cfg names s op h ⟨h.views, h.inj, h.dom⟩
    (fun _ n hn ha => coh'_addCore h (hn.elim (hop n) (hnamed _ n)) ha.fresh) fun _ _ _ => ⟨h.views, h.inj, h.dom⟩

/-- Refinement to a plain map: `get` returns the namespace entry, a successful
    `setattr`/`add` binds exactly that name to exactly that object and changes no other
    binding; a rejected operation changes nothing at all. -/
theorem refines_map (cfg : Cfg) (names : List String) (s : State) (o : Obj) (n : String) :
    ((tryAdd cfg names s o n).2 = .ok →
        ∀ m, (tryAdd cfg names s o n).1.ns m = if m = n then some o else s.ns m) ∧
    ((tryAdd cfg names s o n).2 = .reject → (tryAdd cfg names s o n).1 = s) := by
  by_cases h : Addable cfg names s o n
  · rw [tryAdd_of h]; exact ⟨fun _ _ => rfl, nofun⟩
  · rw [tryAdd_of_not h]; exact ⟨nofun, fun _ => rfl⟩

/-- Attribute access agrees with `get` for every non-native name. -/
theorem getattr_agrees (cfg : Cfg) (names : List String) (s : State) (n : String)
    (hn : n ∉ cfg.native) :
    (step cfg names s (.getattr n)).2 = (match s.ns n with | some o => .value (some o) | none => .reject) ∧
    (step cfg names s (.get n)).2 = .value (s.ns n) := by
  refine ⟨?_, rfl⟩
  simp only [step, if_neg hn]
  cases s.ns n <;> rfl

/-- Rejections: reserved names, non-HDL values, deletion, additions after elaboration,
    and a second name for an object that is already held. None of them changes the state. -/
theorem rejections (cfg : Cfg) (names : List String) (s : State) :
    (∀ o n, n ∈ cfg.banned → tryAdd cfg names s o n = (s, .reject)) ∧
    (∀ k, k ∉ cfg.priv → step cfg names s (.setattr k .other) = (s, .reject)) ∧
    (∀ nm, step cfg names s (.add .other nm) = (s, .reject)) ∧
    (∀ n, step cfg names s (.delattr n) = (s, .reject)) ∧
    (s.frozen = true → ∀ o n, tryAdd cfg names s o n = (s, .reject)) ∧
    (∀ o n, aliased names s o n = true → tryAdd cfg names s o n = (s, .reject)) :=
  ⟨fun o n hb => tryAdd_of_not fun a => a.notBanned hb, fun k hk => by simp only [step, if_neg hk], fun _ => rfl, fun _ => rfl,
    fun hf o n => tryAdd_of_not fun a => Bool.false_ne_true (a.live.symm.trans hf),
    fun o n ha => tryAdd_of_not fun a => Bool.false_ne_true (a.fresh.symm.trans ha)⟩

/-- **Names with a leading underscore are never HDL names**: `add` refuses them whatever is added, and an assignment to one stores a plain
    Python attribute — nothing is filed and the namespace is as it was (so that `get`, attribute access and the views cannot come to
    disagree about such a name). -/
theorem underscore_names (cfg : Cfg) (names : List String) (s : State) (n : String) (hn : n ∈ cfg.priv) :
    (∀ o, tryAdd cfg names s o n = (s, .reject)) ∧ (∀ v, step cfg names s (.setattr n v) = (s, .ok)) :=
  ⟨fun o => tryAdd_of_not fun a => a.notPriv hn, fun v => by simp only [step, if_pos hn]⟩

/-- After `elaborate` every further addition is rejected. -/
theorem frozen_after_elab (cfg : Cfg) (names : List String) (s : State) (o : Obj) (n : String) :
    tryAdd cfg names (step cfg names s .elaborate).1 o n = ((step cfg names s .elaborate).1, .reject) :=
  (rejections cfg names _).2.2.2.2.1 rfl o n

/-- Every name a Module answers natively is reserved (cannot be shadowed by an HDL attribute); likewise for a Bundle.
    Both pairs of lists are regenerated from the code (Generated/Banned.lean). -/
theorem module_native_reserved : ∀ n ∈ nativeAttrs, n ∈ banned := by decide +kernel
theorem bundle_native_reserved : ∀ n ∈ bundleNativeAttrs, n ∈ bundleBanned := by decide +kernel

/-! ### Non-vacuity: a kind-changing re-use of a name -/
example :
    let sig : Obj := ⟨0, .signal⟩
    let inst : Obj := ⟨1, .instance⟩
    let r := run moduleCfg ["q"] (State.init fun _ => none) [.setattr "q" (.hdl sig), .setattr "q" (.hdl inst)]
    r.1.view .signal "q" = none ∧ r.1.view .instance "q" = some inst ∧ r.1.ns "q" = some inst ∧
    r.1.parented 0 = false := by decide +kernel

end Hdl21.Props.C18
