/-
# C04 — The last connection made to a port is the one that gets built

The state that connection operations leave behind — `conns` of every instance, `_connected_ports` of
every connectable, the references handed out — is modelled in `InstOps.lean`.  Proved for every finite
history of connect (by call, by assignment, explicit), replace, disconnect and reference creation:

* `backrefs_inv`            the back-reference sets are exactly the inverse of `conns`, whatever happened;
* `history_is_final_map`    `conns` is the finite map the history denotes (last write wins, a disconnect
                            erases, a `replace` of an unconnected port does nothing but raise);
* `last_connect_wins`, `disconnected_leaves_nothing`   the two readings of that map the property names;
* `no_trace`                two histories that end in the same map end with the same back-reference sets:
                            what was connected and later replaced or disconnected is referenced by nothing
                            that elaboration reads through `conns` and `_connected_ports`;
* `follow_edges_symmetric`  the graph that group discovery (`portrefs.follow`) walks — forward through
                            `conns`, backward through `_connected_ports` — is the symmetric closure of the
                            final map;
* `remove_never_raises`     the `set.remove` calls in replace/disconnect always find their element;
* `refs_only_grow`          references are never dropped: `Refs.all`, `portrefs`, `connrefs` only gain keys.
* `follow_group_is_component`, `groups_depend_on_final_map_only`   the group `follow` discovers from a port is the set of
                            ports linked to it in the final map, whatever history produced that map.
What the elaborator makes of that state is checked on the implementation: the package built from a
history equals the package built from its final map (correspondence, with the model's state compared
after every single operation).
-/
import Hdl21Model.Lemmas.InstOps
import Hdl21Model.Lemmas.Dfs
namespace Hdl21.Props.C04
open Hdl21.InstOps Hdl21.Dfs

/-- Back-references are the inverse of `conns` in every reachable state. -/
theorem backrefs_inv (ops : List Op) : Inv (run init ops) := (run_sim inv_init ops).1

/-- The one-step form: from any state that satisfies the invariant. -/
theorem backrefs_inv_step (s : State) (h : Inv s) (op : Op) : Inv (step s op).1 := (step_sim h op).1

/-- `conns` after a history is the finite map the history denotes. -/
theorem history_is_final_map (ops : List Op) :
    abs (run init ops) = specRun (fun _ => none) ops :=
  (run_sim inv_init ops).2

def touches : Op → Port → Bool
  | .connect q _, p | .replace q _, p | .disconnect q, p => q = p
  | .getref _, _ => false

theorem specRun_untouched {m : Spec} {later : List Op} {p : Port} (h : ∀ op ∈ later, touches op p = false) :
    specRun m later p = m p := by
  induction later generalizing m with
  | nil => rfl
  | cons op later ih =>
    refine (ih (fun o ho => h o (List.mem_cons_of_mem _ ho))).trans ?_
    have hop := h op (List.mem_cons_self ..)
    cases op with
    | getref q => rfl
    | connect q c | replace q c | disconnect q => exact if_neg fun e => by simp [touches, e] at hop

/-- The map at `p` is decided by the last operation that touches `p`. -/
theorem final_at (before later : List Op) (op : Op) (p : Port) (h : ∀ o ∈ later, touches o p = false) :
    abs (run init (before ++ [op] ++ later)) p = specStep (specRun (fun _ => none) before) op p := by
  rw [history_is_final_map, specRun_append, specRun_untouched h, specRun_append]; rfl

/-- Whatever came before, the last connection made to a port is the one in `conns`. -/
theorem last_connect_wins (before later : List Op) (p : Port) (c : Conn)
    (h : ∀ op ∈ later, touches op p = false) :
    abs (run init (before ++ [.connect p c] ++ later)) p = some c :=
  (final_at before later _ p h).trans (if_pos rfl)

/-- A port disconnected last is connected to nothing, and nothing holds a back-reference to it. -/
theorem disconnected_leaves_nothing (before later : List Op) (p : Port)
    (h : ∀ op ∈ later, touches op p = false) :
    let s := run init (before ++ [.disconnect p] ++ later)
    abs s p = none ∧ ∀ c, p ∉ s.back c := by
  have h1 := (final_at before later (.disconnect p) p h).trans (if_pos rfl)
  exact ⟨h1, fun c hc => by cases h1.symm.trans (((backrefs_inv _).back c p).mp hc)⟩

/-- Histories with the same final map leave the same back-reference sets: a replaced or disconnected
    object is not referenced from anywhere. -/
theorem no_trace (ops₁ ops₂ : List Op)
    (h : abs (run init ops₁) = abs (run init ops₂)) (c : Conn) (p : Port) :
    p ∈ (run init ops₁).back c ↔ p ∈ (run init ops₂).back c := by
  rw [(backrefs_inv ops₁).back c p, (backrefs_inv ops₂).back c p]
  exact iff_of_eq (congrArg (· p = some c) h)

/-- In particular: an object that is connected to no port in the final map has an empty set. -/
theorem replaced_object_forgotten (ops : List Op) (c : Conn)
    (h : ∀ p, abs (run init ops) p ≠ some c) : (run init ops).back c = [] :=
  List.eq_nil_iff_forall_not_mem.mpr fun p hp => h p (((backrefs_inv ops).back c p).mp hp)

/-- The edges group discovery follows backwards are exactly the forward edges of the final map. -/
theorem follow_edges_symmetric (ops : List Op) (p q : Port) :
    q ∈ (run init ops).back (.pref p) ↔ abs (run init ops) q = some (.pref p) :=
  (backrefs_inv ops).back _ _

/-- `old._connected_ports.remove(connref)` never raises. -/
theorem remove_never_raises (ops : List Op) (op : Op) : removeWouldRaise (run init ops) op = false := by
  cases op with
  | getref p => rfl
  | connect p c | replace p c | disconnect p =>
    simp only [removeWouldRaise]
    cases hl : lookup (run init ops).conns p with
    | none => rfl
    | some old => simp [((backrefs_inv ops).back old p).mpr hl]

/-- References are never dropped. -/
theorem refs_only_grow (s : State) (op : Op) (p : Port) :
    (p ∈ s.all → p ∈ (step s op).1.all) ∧ (p ∈ s.prefs → p ∈ (step s op).1.prefs) ∧
    (p ∈ s.crefs → p ∈ (step s op).1.crefs) := by
  rcases step_cases s op with ⟨he, _⟩ | ⟨q, he, _⟩ | ⟨q, v, w, _⟩
  · rw [he]; exact ⟨id, id, id⟩
  · rw [he]; exact ⟨mem_insertSet_of_mem, mem_insertSet_of_mem, id⟩
  · rw [w.all, w.prefs, w.crefs]; exact ⟨mem_insertSet_of_mem, id, mem_insertSet_of_mem⟩

/-- Every connected port has its reference object on file, in every reachable state. -/
theorem connected_port_has_ref (ops : List Op) (p : Port) (c : Conn)
    (h : abs (run init ops) p = some c) : p ∈ (run init ops).crefs ∧ p ∈ (run init ops).all :=
  ⟨(backrefs_inv ops).conn_has_ref p c h, (backrefs_inv ops).allC p ((backrefs_inv ops).conn_has_ref p c h)⟩

/-! Non-vacuity: a history that replaces a port reference by a signal and disconnects another port. -/
example :
    let ops := [Op.getref (0, 1), .connect (1, 0) (.pref (0, 1)), .connect (0, 1) (.obj 7),
                .connect (1, 0) (.obj 8), .connect (1, 2) (.obj 7), .disconnect (1, 2)]
    abs (run init ops) (1, 0) = some (.obj 8) ∧ (run init ops).back (.pref (0, 1)) = [] ∧
    (run init ops).back (.obj 7) = [(0, 1)] ∧ (run init ops).prefs = [(0, 1)] := by decide +kernel

/-! ## Group discovery (`portrefs.follow`) sees the final map only -/

/-- the ports `follow` moves to from port `p`: forward through `conns` (when connected to a port reference), backward
    through the `_connected_ports` of `p`'s own reference -/
def nbrs (s : State) (p : Port) : List Port :=
  (match lookup s.conns p with | some (.pref q) => [q] | _ => []) ++ s.back (.pref p)

/-- the same, read off the final map alone -/
def Adj (m : Spec) (p q : Port) : Prop := m p = some (.pref q) ∨ m q = some (.pref p)

theorem nbrs_iff_adj {s : State} (h : Inv s) {p q : Port} : q ∈ nbrs s p ↔ Adj (abs s) p q := by
  unfold nbrs Adj abs
  rw [List.mem_append, h.back]
  refine or_congr ?_ Iff.rfl
  cases lookup s.conns p with
  | none => simp
  | some c => cases c <;> simp [eq_comm]

/-- reachability in the graph of the final map -/
inductive Linked (m : Spec) : Port → Port → Prop
  | refl (a : Port) : Linked m a a
  | step {a b c : Port} : Adj m a b → Linked m b c → Linked m a c

theorem reach_iff_linked {s : State} (h : Inv s) (a b : Port) : Reach (nbrs s) a b ↔ Linked (abs s) a b := by
  constructor
  · intro hr
    induction hr with
    | refl a => exact .refl a
    | step hb _ ih => exact .step ((nbrs_iff_adj h).mp hb) ih
  · intro hl
    induction hl with
    | refl a => exact .refl a
    | step hb _ ih => exact .step ((nbrs_iff_adj h).mpr hb) ih

/-- **The group `follow` discovers from a port is the set of ports linked to it in the final map** — whatever history
    produced that map, and whatever was connected and replaced on the way. -/
theorem follow_group_is_component (ops : List Op) (fuel : Nat) (p : Port) (g : List Port)
    (h : dfs (nbrs (run init ops)) fuel p [] = some g) :
    ∀ x, x ∈ g ↔ Linked (abs (run init ops)) p x :=
  fun x => (dfs_component (nbrs (run init ops)) fuel p g h x).trans (reach_iff_linked (backrefs_inv ops) p x)

/-- Two histories with the same final map discover the same groups. -/
theorem groups_depend_on_final_map_only (ops₁ ops₂ : List Op) (heq : abs (run init ops₁) = abs (run init ops₂))
    (fuel₁ fuel₂ : Nat) (p : Port) (g₁ g₂ : List Port)
    (h₁ : dfs (nbrs (run init ops₁)) fuel₁ p [] = some g₁) (h₂ : dfs (nbrs (run init ops₂)) fuel₂ p [] = some g₂) :
    ∀ x, x ∈ g₁ ↔ x ∈ g₂ :=
  fun _ => (dfs_perm (fun a x => by rw [nbrs_iff_adj (backrefs_inv ops₁), nbrs_iff_adj (backrefs_inv ops₂), heq]) h₁ h₂).mem_iff

end Hdl21.Props.C04
