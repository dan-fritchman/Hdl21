/-
# C05 — Names invented during elaboration never capture the designer's names

Every name elaboration invents goes through `flatname(…, avoid=module.namespace)`:
implicit signals behind port references and behind no-connects, named or not (`create_source`,
`replace_noconn`), flattened bundle members (`replace_bundle_inst`), array elements (`ArrayFlattener`),
instance-bundle members (`InstBundleElabPass`).  Proved for every namespace, every base name and limit:

* `flatname_fresh`     the returned name is not in the namespace it was told to avoid;
* `flatname_shape`     it is the joined base name followed by underscores only;
* `flatname_total`     it fails only if the base name plus one underscore per name to avoid would exceed the length
                       limit (so a clash is resolved by a fresh name or by raising); `Names.flatLoop_total` is the sharper
                       form: one underscore per *colliding* name;
* `insert_keeps`       inserting under a fresh name leaves every existing binding's name in place;
* `inventAllWith_spec` **whichever way a fresh name is chosen**, the names of a batch are distinct from the module's and from
                       each other (`inventAll_spec`, `inventAll_nodup`: the instance with `flatname`).
That each call site really passes the live namespace, and that the rewritten module keeps the designer's
connections on the objects they were made to, is decided by the correspondence (adversarial-name
designs: every designer name chosen among the names the elaborator would invent).
-/
import Hdl21Model.Lemmas.Names
namespace Hdl21.Props.C05
open Hdl21.Names

/-- The invented name never coincides with a name already in the namespace. -/
theorem flatname_fresh (segs : List Name) (avoid : List Name) (maxlen : Nat) (r : Name)
    (h : flatname segs avoid maxlen = some r) : r ∉ avoid ∧ r.length ≤ maxlen :=
  ⟨(flatLoop_spec h).1, (flatLoop_spec h).2.1⟩

/-- It is the documented base name followed by underscores only, and every shorter variant was taken. -/
theorem flatname_shape (segs : List Name) (avoid : List Name) (maxlen : Nat) (r : Name)
    (h : flatname segs avoid maxlen = some r) :
    ∃ k, r = join segs ++ List.replicate k '_' ∧ ∀ j < k, join segs ++ List.replicate j '_' ∈ avoid :=
  (flatLoop_spec h).2.2

/-- **A clash is resolved by a fresh name or by raising, never by capture** — and it only raises when the
    base name plus one underscore per name to avoid would exceed the length limit. -/
theorem flatname_total (segs : List Name) (avoid : List Name) (maxlen : Nat)
    (h : (join segs).length + avoid.length ≤ maxlen) : ∃ r, flatname segs avoid maxlen = some r :=
  flatLoop_total (fun _ hi => hi) (by omega) h

/-- Inserting under the invented name shadows nothing: every previous name is still there, and the new
    one was not. -/
theorem insert_keeps (ns : List Name) (segs : List Name) (maxlen : Nat) (r : Name)
    (h : flatname segs ns maxlen = some r) :
    (∀ n ∈ ns, n ∈ insertName ns r) ∧ r ∉ ns ∧ (insertName ns r).length = ns.length + 1 :=
  ⟨fun _ hn => List.mem_cons_of_mem _ hn, (flatname_fresh segs ns maxlen r h).1, rfl⟩

/-- **Whichever way a fresh name is chosen.** The property leaves the choice open ("a clash is resolved by choosing a fresh name or by
    raising"): for *any* chooser that only ever answers with a name not in the namespace it was shown, the names of a batch — each
    chosen against the live namespace, then inserted — are distinct from every name in the module and from each other, and the
    namespace afterwards is the old one plus exactly those names. `inventAll` is the instance with `flatname`; a code that counts up
    (`x_1`, `x_2`) instead of appending underscores is another. This is the statement the `batch_names` stream judges the
    implementation by. -/
theorem inventAllWith_spec (choose : List Name → List Name → Option Name)
    (hfresh : ∀ ns segs r, choose ns segs = some r → r ∉ ns) :
    ∀ (batch : List (List Name)) (ns ns' rs : List Name), inventAllWith choose ns batch = some (ns', rs) →
      ns' = rs.reverse ++ ns ∧ rs.length = batch.length ∧ (∀ r ∈ rs, r ∉ ns) ∧ rs.Nodup := by
  intro batch
  induction batch with
  | nil =>
    intro ns ns' rs h
    cases Option.some.inj h
    exact ⟨rfl, rfl, fun _ hr => (by cases hr), List.nodup_nil⟩
  | cons segs rest ih =>
    intro ns ns' rs h
    rw [inventAllWith] at h
    split at h
    · cases h
    rename_i r hf
    split at h
    · cases h
    rename_i ns₂ rs₂ hr
    cases Option.some.inj h
    obtain ⟨h1, h2, h3, h4⟩ := ih (insertName ns r) _ _ hr
    refine ⟨by rw [h1]; simp [insertName], congrArg (· + 1) h2, fun x hx => ?_,
      List.nodup_cons.mpr ⟨fun hin => h3 r hin (List.mem_cons_self ..), h4⟩⟩
    rcases List.mem_cons.mp hx with rfl | hx
    · exact hfresh ns segs x hf
    · exact fun hin => h3 x hx (List.mem_cons_of_mem _ hin)

/-- `flatname` is such a chooser: `inventAll` is `inventAllWith` of it. -/
theorem inventAll_is_instance (maxlen : Nat) : ∀ (batch : List (List Name)) (ns : List Name),
    inventAll ns maxlen batch = inventAllWith (fun ns segs => flatname segs ns maxlen) ns batch := by
  intro batch
  induction batch with
  | nil => exact fun _ => rfl
  | cons segs rest ih =>
    intro ns
    simp only [inventAll, inventAllWith]
    cases flatname segs ns maxlen with
    | none => rfl
    | some r => simp only [ih]

/-- **Names invented in one batch** (the members of a flattened bundle, the elements of an array, the instances of an
    instance bundle) never coincide with a name already in the module *nor with each other*, and nothing that was in the
    namespace leaves it: the namespace afterwards is the invented names on top of the old one. -/
theorem inventAll_spec (maxlen : Nat) : ∀ (batch : List (List Name)) (ns ns' rs : List Name),
    inventAll ns maxlen batch = some (ns', rs) →
    ns' = rs.reverse ++ ns ∧ rs.length = batch.length ∧ (∀ r ∈ rs, r ∉ ns) ∧ rs.Nodup := by
  intro batch ns ns' rs h
  rw [inventAll_is_instance] at h
  exact inventAllWith_spec _ (fun ns segs r hr => (flatname_fresh segs ns maxlen r hr).1) batch ns ns' rs h

/-- Non-vacuity: a chooser that counts up instead of appending underscores. -/
example :
    let countUp : List Name → List Name → Option Name := fun ns segs =>
      let base := join segs
      if base ∉ ns then some base else ((List.range 5).map (fun k => base ++ '_' :: (toString (k + 1)).toList)).find? (· ∉ ns)
    (inventAllWith countUp ["a_0".toList, "a_1".toList] [["a".toList, "0".toList], ["a".toList, "1".toList], ["a".toList, "0".toList]]).map (·.2.map String.ofList) =
      some ["a_0_1", "a_1_1", "a_0_2"] := by decide +kernel

/-- … so a namespace without duplicates stays without duplicates, whatever the designer called things. -/
theorem inventAll_nodup (maxlen : Nat) (batch : List (List Name)) (ns ns' rs : List Name) (hns : ns.Nodup)
    (h : inventAll ns maxlen batch = some (ns', rs)) : ns'.Nodup ∧ ∀ n ∈ ns, n ∈ ns' := by
  obtain ⟨h1, _, h3, h4⟩ := inventAll_spec maxlen batch ns ns' rs h
  subst h1
  refine ⟨?_, fun n hn => List.mem_append_right _ hn⟩
  rw [List.nodup_append]
  exact ⟨List.pairwise_reverse.mpr (List.Pairwise.imp Ne.symm h4), hns, fun a ha b hb hab => h3 a (List.mem_reverse.mp ha) (hab ▸ hb)⟩

/-! ### Non-vacuity: two members `x`, `x_` of bundle `b` next to a designer's `b_x`; a designer who already used `i0_a` and `i0_a_` -/
example : inventAll ["b_x".toList, "s".toList] 511 [["b".toList, "x".toList], ["b".toList, "x_".toList]]
    = some (["b_x__".toList, "b_x_".toList, "b_x".toList, "s".toList], ["b_x_".toList, "b_x__".toList]) := by decide +kernel

example : flatname ["i0".toList, "a".toList] ["i0_a".toList, "x".toList, "i0_a_".toList] = some "i0_a__".toList := by
  decide +kernel

end Hdl21.Props.C05
