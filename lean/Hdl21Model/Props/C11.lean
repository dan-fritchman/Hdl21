/-
# C11 — Exported packages survive a round trip through from_proto

Proved here, for connection targets of any nesting: importing a well-formed target and exporting it
again gives the identical target — `slice.top` inclusive ↔ Python's exclusive stop, concatenation parts
reversed on the way out and on the way in (`target_roundtrip`).  The table parts of the round trip
(prefix maps, ideal-primitive name maps, pulse-source parameter renaming: importer = inverse of exporter
on every entry) are the `decide` theorems of Props/C13 over tables regenerated from the code.
For modules: one of the shape `export_module` writes imports without error and exports back identically
(`module_roundtrip`), whatever the composed passes and the exporter return for an F1 module or design has that shape
(`pipeline_output_roundtrips`, `design_output_roundtrips`), and a resolved connection is left alone when elaborated again
(`resolved_connection_is_a_fixed_point`).
The rest of the property (parameter values, external-module declarations with port order and spice type, literals,
re-elaboration of imported modules as a whole) is decided by the correspondence: `to_proto(from_proto(P)) == P` as
protobuf equality for every package the design generator, the examples and the primitive / external-module parameter
space produce.
-/
import Hdl21Model.Props.C13
import Hdl21Model.Props.C06
import Hdl21Model.Lemmas.ResolveNF
namespace Hdl21.Props.C11
open Hdl21.Pkg

mutual
/-- **Round trip of connection targets**: export ∘ import is the identity on well-formed targets. -/
theorem target_roundtrip (ws : List (String × Nat)) : (t : PTarget) → wfTarget ws t = true →
    exportTarget (importTarget ws t) = .ok t
  | .sig n, _ => by rw [importTarget, exportTarget]
  | .slice n top bot, h => by
    rw [wfTarget] at h
    cases hl : lookup n ws with
    | none => simp [hl] at h
    | some w =>
      simp only [hl, Bool.and_eq_true, decide_eq_true_eq] at h
      rw [importTarget, hl]
      have hi := sliceInner_run w bot (top + 1) (by omega) (by omega)
      exact exportTarget_slice_ok_iff.2 ⟨_, hi, rfl, by simp⟩
  | .concat parts, h => by
    rw [importTarget, exportTarget, parts_roundtrip ws parts h]; rfl
theorem parts_roundtrip (ws : List (String × Nat)) : (ps : List PTarget) → wfParts ws ps = true →
    exportParts (importParts ws ps) = .ok ps
  | [], _ => by rw [importParts, exportParts]
  | p :: rest, h => by
    rw [wfParts, Bool.and_eq_true] at h
    exact exportParts_snoc (parts_roundtrip ws rest h.2) (target_roundtrip ws p h.1)
end

/-- The table parts of the round trip (regenerated from exporter and importer on every run). -/
theorem tables_roundtrip :
    (∀ pv ∈ prefixValues, ∃ name, Params.exportPrefix pv = some name ∧ Params.importPrefix name = some pv) ∧
    (∀ p ∈ exportPrimMap, Params.lookupS p.2 importPrimMap = some p.1) ∧
    (∀ p ∈ exportPulseMap, Params.lookupS p.2 importPulseMap = some p.1) :=
  ⟨Props.C13.prefix_roundtrip, Props.C13.prim_maps_inverse, Props.C13.pulse_maps_inverse⟩

open Hdl21.RoundTrip

/-- **Round trip of a module**: a module of the shape `export_module` writes — signal names distinct, internal signals
    first and then the ports in the order of the port list, directions of the enumeration, instances of defined things
    connected on existing ports to well-formed targets — is imported without error, and exporting what was imported gives
    the identical module: same signals in the same order, same ports with the same directions in the same order, same
    instances with the same references, parameters and connection targets.  (`ctx`: the port names of what a reference
    resolves to — an earlier module of the package, a declared external module, a primitive.) -/
theorem module_roundtrip (ctx : PRef → Option (List String)) (p : PModule) (h : Shape ctx p = true) :
    ∃ m, importModule ctx p = .ok m ∧ exportModule m = .ok p := by
  obtain ⟨_, hpn, hd, hsplit, hports, hinst⟩ := shape_iff.mp h
  obtain ⟨m, him, hn, hs, hp, _, hq, hi⟩ := importModule_of_shape hpn hd hports hinst (target_roundtrip p.signals)
  refine ⟨m, him, exportModule_ok_iff.mpr ⟨_, _, hq, hi, ?_⟩⟩
  rw [List.map_append, hs, hp, ← hsplit, hn]

/-- The same for an exporter that writes the ports' signals first: the round trip is the identity on *that* layout. The importer is
    the same function — it files signals by whether a port entry names them, wherever they stand. -/
theorem module_roundtrip_ports_first (ctx : PRef → Option (List String)) (p : PModule) (h : ShapePF ctx p = true) :
    ∃ m, importModule ctx p = .ok m ∧ exportModulePF m = .ok p := by
  obtain ⟨_, hpn, hd, hsplit, hports, hinst⟩ := shapePF_iff.mp h
  obtain ⟨m, him, hn, hs, hp, _, hq, hi⟩ := importModule_of_shape hpn hd hports hinst (target_roundtrip p.signals)
  refine ⟨m, him, ?_⟩
  unfold exportModulePF
  rw [hq, hi, List.map_append, hs, hp, ← hsplit, hn]

/-- What the importer makes of such a module, spelled out: the internal signals and the ports in two lists, each in the
    order of the package's signal list, every port with the direction of its port entry. -/
theorem import_shape (ctx : PRef → Option (List String)) (p : PModule) (h : Shape ctx p = true) (m : HModule)
    (hm : importModule ctx p = .ok m) :
    m.name = p.name ∧
    m.signals.map (fun s => (s.name, s.width)) = p.signals.filter (fun sw => !isPort p sw.1) ∧
    m.ports.map (fun s => (s.name, s.width)) = p.signals.filter (fun sw => isPort p sw.1) ∧
    (∀ s ∈ m.signals, s.dir = none) ∧ m.instances.length = p.instances.length := by
  obtain ⟨_, hpn, hd, _, hports, hinst⟩ := shape_iff.mp h
  obtain ⟨m', him, hn, hs, hp, hdir, _, hi⟩ := importModule_of_shape hpn hd hports hinst (target_roundtrip p.signals)
  cases him.symm.trans hm
  exact ⟨hn, hs, hp, hdir, (RoundTrip.exportInsts_ok_iff.mp hi).length_eq⟩

def exCtx : PRef → Option (List String) := fun r => if r = .ext "vlsir.primitives" "resistor" then some ["p", "n"] else none
def exMod : PModule := ⟨"Top", [("s", 2), ("a", 1), ("b", 3)], [("a", "INPUT"), ("b", "NONE")],
  [⟨"r1", .ext "vlsir.primitives" "resistor", [("r", "5")], [("p", .slice "s" 1 1), ("n", .concat [.slice "b" 0 0])]⟩]⟩
example : Shape exCtx exMod = true ∧
    (importModule exCtx exMod).toOption.map (fun m => (m.signals.map (·.name), m.ports.map (fun s => (s.name, s.dir))))
      = some (["s"], [("a", some "INPUT"), ("b", some "NONE")]) := by decide +kernel

example : exportTarget (importTarget [("a", 4), ("b", 2)] (.concat [.slice "a" 2 1, .sig "b"]))
        = .ok (.concat [.slice "a" 2 1, .sig "b"]) := by rfl

/-- **A connection the elaborator has resolved is left alone when it is elaborated again** — which is what
    `to_proto(from_proto(P)) = P` needs of the importer's connections (they are written back as `SliceResolver` left them: a
    signal, a slice taken directly from a signal and not the whole of it, or a non-empty concatenation of those: `resolve_nf`),
    for every nesting, width, step and sign of the expression they came from.  (Seed C11-r9-1 left a whole-signal slice standing
    inside a concatenation: not a fixed point, and the second export differed.) -/
theorem resolved_connection_is_a_fixed_point (fuel : Nat) (c r : SConn) (h : resolveSliceable fuel c = .ok r) :
    ∃ f, resolveSliceable f r = .ok r :=
  nf_fixed r (resolveSliceable_nf h)

example :
    let c : SConn := .slice (.concat [.sig "a" 4, .sig "b" 4]) (.range (some 0) (some 6) none)
    (match resolveSliceable 30 c with
     | .ok r => (match resolveSliceable 30 r with | .ok r' => some (r'.size == r.size && r.exportable) | .error _ => none)
     | .error _ => none) = some true := by decide +kernel

section Pipeline
open Hdl21.ExportWF Hdl21.ModulePipe Hdl21.Props.C06

theorem exportPorts_dirs : ∀ (l : List HSig) (q : List (String × String)), exportPorts l = .ok q → ∀ x ∈ q, x.2 ∈ protoDirs := by
  intro l q h x hx
  obtain ⟨sg, _, _, hd⟩ := (exportPorts_ok_iff.mp h).mem_right hx
  obtain ⟨k, _, hd⟩ := Option.bind_eq_some_iff.mp hd
  have hall : ∀ kv ∈ exportDirMap, kv.2 ∈ protoDirs := by decide +kernel
  exact hall (k, x.2) (lookupS_mem hd)

/-- the layout `export_module` writes — internal signals `A`, then the ports' signals `B` in port order — has the `Shape` -/
theorem shape_of_layout (ctx' : PRef → Option (List String)) (nm : String) (A B : List (String × Nat)) (q : List (String × String))
    (ps : List PInst) (hnd : ((A ++ B).map (·.1)).Nodup) (hq : q.map (·.1) = B.map (·.1)) (hdirs : ∀ x ∈ q, x.2 ∈ protoDirs)
    (hinst : ∀ pi ∈ ps, RoundTrip.instOK ctx' (A ++ B) pi = true) : Shape ctx' ⟨nm, A ++ B, q, ps⟩ = true := by
  obtain ⟨_, hBnd, hdisj⟩ := List.nodup_append.mp (List.map_append ▸ hnd)
  -- a name is a port's exactly when it is one of `B`'s, so filtering by it splits `A ++ B` where it was joined
  have hisp : ∀ n, (q.any fun x => x.1 == n) = true ↔ n ∈ B.map (·.1) := fun n => by
    simp only [List.any_eq_true, beq_iff_eq, ← hq, List.mem_map]
  have hA : ∀ sw ∈ A, (q.any fun x => x.1 == sw.1) = false := fun sw hsw =>
    Bool.eq_false_iff.mpr fun hb => hdisj _ (List.mem_map_of_mem hsw) _ ((hisp _).mp hb) rfl
  have hB : ∀ sw ∈ B, (q.any fun x => x.1 == sw.1) = true := fun sw hsw => (hisp _).mpr (List.mem_map_of_mem hsw)
  have f1 : (A ++ B).filter (fun sw => !(q.any fun x => x.1 == sw.1)) = A := by
    rw [List.filter_append, List.filter_eq_self.mpr fun sw hsw => by rw [hA sw hsw]; rfl,
      List.filter_eq_nil_iff.mpr fun sw hsw => by rw [hB sw hsw]; decide, List.append_nil]
  have f2 : (A ++ B).filter (fun sw => q.any fun x => x.1 == sw.1) = B := by
    rw [List.filter_append, List.filter_eq_nil_iff.mpr fun sw hsw => by rw [hA sw hsw]; decide,
      List.filter_eq_self.mpr hB, List.nil_append]
  exact shape_iff.mpr ⟨hnd, hq ▸ hBnd, hdirs, by simp only [isPort, f1, f2], by simp only [isPort, f2, hq], List.all_eq_true.mpr hinst⟩

/-- **Whatever the composed passes and the exporter return has the shape the round-trip theorem asks for** — so every exported
    F1 module is imported without error and exported back identically (`module_roundtrip`), with no assumption on the package
    other than where it came from.  (`hpar`: instances of Modules carry no parameters — hdl21 cannot write one that does.) -/
theorem pipeline_output_roundtrips (fuel : Nat) (ctx : PRef → Option (List (String × Nat))) (h : HModule) (p : PModule)
    (hm : ModOK ctx h) (hpar : ∀ i ∈ h.instances, ∀ n, i.ref = .loc n → i.params = [])
    (hp : pipeline fuel ctx h = .ok p) :
    Shape (fun r => (ctx r).map (·.map (·.1))) p = true ∧
    ∃ m, importModule (fun r => (ctx r).map (·.map (·.1))) p = .ok m ∧ RoundTrip.exportModule m = .ok p := by
  have hshape : Shape (fun r => (ctx r).map (·.map (·.1))) p = true := by
    obtain ⟨hchk, is, q, ps, hr, hq, hx, rfl⟩ := (pipeline_spec hm).mp hp
    have hws : sigList h = h.signals.map (fun s => (s.name, s.width)) ++ h.ports.map (fun s => (s.name, s.width)) := List.map_append
    rw [hws]
    apply shape_of_layout
    · rw [← List.map_append, List.map_map]; exact hm.names_nodup
    · rw [exportPorts_names hq, List.map_map]; rfl
    · exact exportPorts_dirs _ _ hq
    · intro pi hpi
      obtain ⟨r, hr', x1, x2, x3, xcs⟩ := hx.mem_right hpi
      obtain ⟨i, hi, hrel⟩ := hr.mem_right hr'
      obtain ⟨ports, hcr, hcs, _⟩ := (hchk i hi).resolved hrel
      refine RoundTrip.instOK_iff.mpr ⟨ports.map (·.1), ?_, fun n hn => ?_, connsOK_iff.mpr fun pt hpt => ?_⟩
      · show (ctx pi.ref).map _ = _
        rw [x2, hcr]; rfl
      · rw [x3, hrel.2.2.1, hpar i hi n (by rw [← hrel.2.1, ← x2, hn])]
      · obtain ⟨pc, hpc, e1, hexp⟩ := xcs.mem_right hpt
        obtain ⟨hok, w, hl, _⟩ := hcs pc hpc
        exact ⟨e1 ▸ mem_keys_of_lookup hl, export_wfTarget _ pc.2 pt.2 (hws ▸ hok) hexp⟩
  exact ⟨hshape, module_roundtrip _ p hshape⟩

/-- **Every module of the package of an F1 design round-trips**: put through `pipelineDesign` (children first), each exported
    module is imported without error — against the port names of what the package held when it was written: modules exported
    before it, declared external modules, primitives — and exported back identically. -/
theorem design_output_roundtrips (fuel : Nat) (exts : List PExt) (hext : ∀ e ∈ exts, (e.ports.map (·.1)).Nodup) :
    ∀ (hs : List HModule) (acc mods : List PModule),
      (∀ h ∈ hs, ModOK₀ h ∧ ∀ i ∈ h.instances, ∀ n, i.ref = .loc n → i.params = []) → (∀ m ∈ acc, (m.ports.map (·.1)).Nodup) →
      pipelineDesign fuel exts hs acc = .ok mods →
      ∃ new, mods = acc ++ new ∧ ∀ p ∈ new, ∃ earlier, earlier <+: mods ∧
        ∃ m, importModule (fun r => (targetPorts ⟨[], exts⟩ earlier r).map (·.map (·.1))) p = .ok m ∧ RoundTrip.exportModule m = .ok p := by
  intro hs acc mods hm hacc hp
  obtain ⟨new, rfl, hr⟩ := pipelineDesign_spec fuel exts hext (fun h hh => (hm h hh).1) hacc hp
  refine ⟨new, rfl, fun p hpn => ?_⟩
  obtain ⟨h, hh, earlier, hpre, hmod, h1⟩ := hr.all2.mem_right hpn
  exact ⟨earlier, hpre, (pipeline_output_roundtrips fuel _ _ p hmod (hm h hh).2 h1).2⟩

end Pipeline

end Hdl21.Props.C11
