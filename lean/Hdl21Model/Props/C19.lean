/-
# C19 — Built-in generators build the documented topologies

For every `n ≥ 2`, every type of port names and every pair of distinct series ports (`seriesNet`, Builtin.lean):
* `series_units`            there are exactly `n` units (0 … n-1);
* `series_first_end`, `series_last_end`   unit 0's first series port and unit n-1's second series port are on the
                            module's two series ports;
* `series_chain_link`       unit k's second series port and unit k+1's first are on the private net `i[k]`;
* `series_chain_private`    nothing else is on `i[k]`: a terminal on it is one of those two;
* `series_parallel`         every other unit port is on the same-named module port;
* `series_port_touched_by`  a module port is touched only by same-named unit ports, a series port only by its end unit
                            (so the two series ports are not shorted, and no middle unit is exposed);
* `series_one_is_wrapper`, `wrapper_exposes`   `n = 1` and `Wrapper`: every port on the same-named port;
* `mosstack_is_series`      MosStack is Series over drain and source.
The correspondence builds Series / MosStack / Wrapper for units of every kind and compares the exported package's
leaf-level partition with Sem.src of the plain design that these theorems describe.
-/
import Hdl21Model.Lemmas.Builtin
namespace Hdl21.Props.C19
open Hdl21.Builtin

variable {α : Type} [DecidableEq α]

/-- exactly `n` units -/
theorem series_units (n : Nat) (f s : α) (k : Nat) (p : α) (hn : 2 ≤ n) :
    seriesNet n f s k p = none ↔ n ≤ k :=
  ⟨fun h => Nat.not_lt.mp fun hk => (nomatch (seriesNet_of_lt f s p hk).symm.trans h), seriesNet_of_le f s p⟩

theorem series_first_end (n : Nat) (f s : α) (hn : 2 ≤ n) :
    seriesNet n f s 0 f = some (.port f) := by
  rw [seriesNet_of_lt f s f (by omega), if_pos rfl, if_pos rfl]

theorem series_last_end (n : Nat) (f s : α) (hn : 2 ≤ n) (hfs : f ≠ s) :
    seriesNet n f s (n - 1) s = some (.port s) := by
  rw [seriesNet_of_lt f s s (by omega), if_neg hfs.symm, if_pos rfl, if_pos rfl]

/-- unit k's second series port joins unit k+1's first on `i[k]` -/
theorem series_chain_link (n : Nat) (f s : α) (k : Nat) (hk : k + 1 < n) (hfs : f ≠ s) :
    seriesNet n f s k s = some (.chain k) ∧ seriesNet n f s (k + 1) f = some (.chain k) := by
  constructor
  · rw [seriesNet_of_lt f s s (by omega), if_neg hfs.symm, if_pos rfl, if_neg (by omega)]
  · rw [seriesNet_of_lt f s f hk, if_pos rfl]; rfl

/-- … and nothing else is on that net -/
theorem series_chain_private (n : Nat) (f s : α) (k : Nat) (p : α) (j : Nat)
    (h : seriesNet n f s k p = some (.chain j)) :
    (k = j ∧ p = s ∧ j + 1 < n) ∨ (k = j + 1 ∧ p = f ∧ j + 1 < n) := by
  have hk := lt_of_seriesNet_eq_some h
  rw [seriesNet_of_lt f s p hk] at h
  split at h
  · -- the first series port of unit `k` is on `i[k - 1]`, unless `k = 0`
    rename_i hp
    split at h
    · cases h
    · rename_i hk0
      cases h
      exact .inr ⟨by omega, hp, by omega⟩
  · split at h
    · -- the second is on `i[k]`, unless `k = n - 1`
      rename_i hp
      split at h
      · cases h
      · rename_i hkn
        cases h
        exact .inl ⟨rfl, hp, by omega⟩
    · cases h

/-- every other unit port is wired to the same-named module port -/
theorem series_parallel (n : Nat) (f s : α) (k : Nat) (p : α) (hk : k < n) (hf : p ≠ f) (hs : p ≠ s) :
    seriesNet n f s k p = some (.port p) := by
  rw [seriesNet_of_lt f s p hk, if_neg hf, if_neg hs]

/-- a module port is touched only by same-named unit ports; a series port only by its end unit -/
theorem series_port_touched_by (n : Nat) (f s : α) (k : Nat) (p q : α) (hn : 2 ≤ n)
    (h : seriesNet n f s k p = some (.port q)) :
    q = p ∧ (p = f → k = 0) ∧ (p = s → p ≠ f → k = n - 1) := by
  rw [seriesNet_of_lt f s p (lt_of_seriesNet_eq_some h)] at h
  split at h
  · rename_i hp
    split at h
    · rename_i hk0
      cases h
      exact ⟨hp.symm, fun _ => hk0, fun _ hpf => absurd hp hpf⟩
    · cases h
  · rename_i hpf
    split at h
    · rename_i hp
      split at h
      · rename_i hkn
        cases h
        exact ⟨hp.symm, fun e => absurd e hpf, fun _ _ => hkn⟩
      · cases h
    · rename_i hps
      cases h
      exact ⟨rfl, fun e => absurd e hpf, fun e => absurd e hps⟩

omit [DecidableEq α] in
/-- the two series ports of the module are different nets, and the chain never reaches a module port -/
theorem series_ends_not_shorted (f s : α) (hfs : f ≠ s) (j : Nat) :
    (Net.port f : Net α) ≠ Net.port s ∧ (Net.chain j : Net α) ≠ Net.port f ∧ (Net.chain j : Net α) ≠ Net.port s := by
  refine ⟨fun h => hfs (by injection h), (fun h => by cases h), (fun h => by cases h)⟩

/-- `nser = 1` is a plain wrapper -/
theorem series_one_is_wrapper (f s p : α) : seriesNet 1 f s 0 p = some (wrapperNet p) := rfl

omit [DecidableEq α] in
theorem wrapper_exposes (p : α) : wrapperNet p = Net.port p := rfl

/-- MosStack is Series over drain and source -/
def mosStackNet (n : Nat) (k : Nat) (p : String) : Option (Net String) := seriesNet n "d" "s" k p
theorem mosstack_is_series (n k : Nat) (p : String) : mosStackNet n k p = seriesNet n "d" "s" k p := rfl

/-- a series pair that elaboration can wire: both scalar -/
theorem series_accepts_scalar (n : Nat) (hn : 1 ≤ n) : seriesAccepts n (some 1) (some 1) = true := by
  simp [seriesAccepts, hn]

theorem series_rejects_bus (n w : Nat) (hn : 2 ≤ n) (hw : 2 ≤ w) (o : Option Nat) :
    seriesAccepts n (some w) o = false := by
  simp only [seriesAccepts]
  have h1 : (n == 1) = false := by simp; omega
  have h2 : (some w == some 1) = false := by simp; omega
  simp [h1, h2]

/-! Non-vacuity: a chain of four two-terminal units -/
example : (List.range 4).map (fun k => (seriesNet 4 0 1 k 0, seriesNet 4 0 1 k 1)) =
    [(some (.port 0), some (.chain 0)), (some (.chain 0), some (.chain 1)), (some (.chain 1), some (.chain 2)), (some (.chain 2), some (.port 1))] := by
  decide +kernel

end Hdl21.Props.C19
